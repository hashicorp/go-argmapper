import ArgMapper.Model.Hist
import ArgMapper.Proofs.Once
/-!
# C11 over histories that contain Redefines

`C11.once_at_most_once` / `C11.first_result_kept` speak about histories of calls.  With the history
model of `Model/Hist.lean` (calls and Redefines on shared function objects, the run-once cells and
execution counters threaded, one common fuel) the same holds with any number of Redefines interleaved:
over the whole history the body of a run-once function is executed at most once, and its memo cell
keeps the result of that execution.
-/
namespace ArgMapper.C11
open ArgMapper

/-- every execution of every `Call` of a history, in order (Redefines execute nothing) -/
def histLog (obs : List HistObs) : List ExecEv :=
  obs.flatMap (fun o => match o with | .call _ l => l | .redef _ => [])

/-- every function object with id `fid` that some call of the history could execute is run-once -/
def OnceEverywhereH (ops : List HistOp) (fid : Nat) : Prop :=
  ∀ op ∈ ops, match op with
    | .call c _ t _ => (t.id = fid → t.once = true) ∧ ∀ k f, c.funcOf k = some f → f.id = fid → f.once = true
    | .redefine .. => True

/-- **C11 (at most once, Redefines interleaved)** -/
theorem once_at_most_once_hist (fuel : Nat) (ops : List HistOp) (fid : Nat) (h : OnceEverywhereH ops fid) :
    ((histLog (runHist fuel {} ops).2).filter (fun e => e.fid == fid)).length ≤ 1 :=
  (Once.runHist_good fuel fid ops h).1

/-- **C11 (first result kept, Redefines interleaved)** — once it has executed, the memo cell the function
objects carry at the end of the history holds the result of that execution -/
theorem first_result_kept_hist (fuel : Nat) (ops : List HistOp) (fid : Nat) (h : OnceEverywhereH ops fid)
    (ev : ExecEv) (hev : ev ∈ histLog (runHist fuel {} ops).2) (hf : ev.fid = fid) :
    ∃ m, mapGet (runHist fuel {} ops).1.memo fid = some m ∧ m.res = ev.res :=
  (Once.runHist_good fuel fid ops h).2 ev hev hf

/-- a run-once function that has not executed during the history has no result yet (so its first real
use afterwards executes it), whatever Redefines the history contains -/
theorem not_run_no_memo (fuel : Nat) (ops : List HistOp) (fid : Nat) (h : OnceEverywhereH ops fid)
    (hno : ∀ ev ∈ histLog (runHist fuel {} ops).2, ev.fid ≠ fid) :
    mapGet (runHist fuel {} ops).1.memo fid = none := by
  rcases Once.runHist_has fuel fid ops with hn | ⟨ev, hev, hf⟩
  · exact hn
  · exact absurd hf (hno ev hev)

end ArgMapper.C11
