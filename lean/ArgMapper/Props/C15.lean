import ArgMapper.Model.Sig
import ArgMapper.Proofs.ValueSets
/-!
# C15 — value sets round-trip values faithfully
Property theorems only (helper lemmas in `ArgMapper/Proofs/Sig.lean` and `ArgMapper/Proofs/ValueSets.lean`).

`NewValueSet` renders each value's labels into a struct tag and `newValueSetFromStruct` parses the
tag back.  `TagRoundTrips` states that this string round trip is faithful for the given labels
(true whenever subtypes contain no comma, `C15b`; checked on the real parser by the correspondence
run).
-/
namespace ArgMapper.C15
open ArgMapper

def TagRoundTrips (vs : List Label) : Prop :=
  ∀ i l, vs[i]? = some l → fieldLabel (valueField i l) = { l with name := lower l.name }

/-- **C15_values_roundtrip** — the set reports the values back, names lower-cased, in order -/
theorem values_roundtrip (vs : List Label) (ht : TagRoundTrips vs) :
    ∃ s, newValueSetOfValues vs = .ok s ∧ s.labels = vs.map (fun l => { l with name := lower l.name }) ∧
      s.values.map (·.index) = (List.range vs.length).map (· + 1) := by
  exact ⟨_, newValueSetOfValues_eq vs ht, rtVal_labels vs, rtVal_indices vs⟩

/-- **C15_lookup** — each named value is found by its name, each type-only value by its type (when
no later type-only value has the same type), and by type and subtype when no other value of the
set shares both -/
theorem lookup_named (vs : List Label) (ht : TagRoundTrips vs) (s : ValueSet)
    (hs : newValueSetOfValues vs = .ok s) (i : Nat) (l : Label) (hi : vs[i]? = some l) (hn : l.name ≠ "")
    (hlow : lower l.name ≠ "")
    (huniq : ∀ j l', vs[j]? = some l' → lower l'.name = lower l.name → j = i) :
    (s.namedLookup (lower l.name)).map (·.lab) = some { l with name := lower l.name } := by
  rw [newValueSetOfValues_eq vs ht] at hs
  cases hs
  have _ := hn
  have h := namedLookup_of_unique (x := rtVal i l) (mem_mapIdx_iff.2 ⟨i, l, hi, rfl⟩) hlow
    fun v hv hname => eq_rtVal_of_unique hi hv fun j l' hj e => huniq j l' hj (by rw [e] at hname; exact hname)
  exact congrArg (Option.map (·.lab)) h

theorem lookup_typed (vs : List Label) (ht : TagRoundTrips vs) (s : ValueSet)
    (hs : newValueSetOfValues vs = .ok s) (i : Nat) (l : Label) (hi : vs[i]? = some l) (hn : l.name = "")
    (huniq : ∀ j l', vs[j]? = some l' → l'.name = "" → l'.ty = l.ty → j = i) :
    (s.typedLookup l.ty).map (·.lab) = some l := by
  rw [newValueSetOfValues_eq vs ht] at hs
  cases hs
  have hl : rtLabel l = l := by
    obtain ⟨n, t, s⟩ := l
    cases hn
    exact congrArg (Label.mk · t s) (lower_eq_empty.2 rfl)
  have hname : (rtVal i l).lab.name = "" := lower_eq_empty.2 hn
  have h := typedLookup_of_unique (x := rtVal i l) (mem_mapIdx_iff.2 ⟨i, l, hi, rfl⟩) hname
    fun v hv hvn hty => eq_rtVal_of_unique hi hv fun j l' hj e =>
      huniq j l' hj (by rw [e] at hvn; exact lower_eq_empty.1 hvn) (by rw [e] at hty; exact hty)
  exact (congrArg (Option.map (·.lab)) h).trans (congrArg some hl)

theorem lookup_typed_sub (vs : List Label) (ht : TagRoundTrips vs) (s : ValueSet)
    (hs : newValueSetOfValues vs = .ok s) (i : Nat) (l : Label) (hi : vs[i]? = some l)
    (huniq : ∀ j l', vs[j]? = some l' → l'.ty = l.ty → l'.sub = l.sub → j = i) :
    (s.typedSubLookup l.ty l.sub).map (·.lab) = some { l with name := lower l.name } := by
  rw [newValueSetOfValues_eq vs ht] at hs
  cases hs
  have h := find?_eq_some_of_unique (p := fun v => v.lab.ty == l.ty && v.lab.sub == l.sub)
    (mem_mapIdx_iff.2 ⟨i, l, hi, rfl⟩) (by simp only [rtVal, rtLabel, beq_self_eq_true, Bool.and_self])
    fun v hv hp => eq_rtVal_of_unique hi hv fun j l' hj e => by
      rw [e, Bool.and_eq_true, beq_iff_eq, beq_iff_eq] at hp
      exact huniq j l' hj hp.1 hp.2
  exact congrArg (Option.map (·.lab)) h

/-- **C15_signature_roundtrip** — loading the values a struct-form set renders as its signature
restores every value (indices of a set are pairwise distinct) -/
theorem signature_roundtrip (s : ValueSet) (hnd : (s.values.map (·.index)).Nodup)
    (vals : List (Option Nat)) (hl : vals.length = s.values.length) :
    s.roundTrip vals = vals := by
  exact roundTrip_eq s.values hnd vals hl

/-- before the repair of finding F1 the rendered signature of a positional set was the parameter type
list only when the types were pairwise distinct … -/
theorem signature_positional_pre_repair (ps : List Param) (hne : 2 ≤ ps.length) (hns : ∀ p ∈ ps, p.isStruct = false)
    (hd : (ps.map Param.ty).Nodup) (s : ValueSet) (hs : newValueSet ps = .ok s) :
    s.signatureByTypeMap 0 = some (ps.map Param.ty) := by
  rw [newValueSet_eq_lifted ps hns (by intro h; simp [h] at hne), newValueSetLifted_eq ps hns] at hs
  cases hs
  exact signature_lifted (ps.map Param.ty) _ rfl (typed_lifted _ hd) 0

end ArgMapper.C15
