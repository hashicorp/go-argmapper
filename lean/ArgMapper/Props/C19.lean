import ArgMapper.Spec.GraphSpec
import ArgMapper.Proofs.GraphRefine
/-!
# C19 — graph mutations keep the edge structure consistent; copies are independent

Property theorems only (helper lemmas live in `ArgMapper/Proofs/GraphRefine*.lean`).

`GraphSpec.implRun true ops` is the heap-of-maps transcription of `graph.go` (with `Reverse`
initialising the maps first — the repaired behaviour, finding F11) run on a history;
`GraphSpec.specRun ops` is the plain adjacency specification run on the same history.
-/
namespace ArgMapper.C19
open ArgMapper AGraph GraphSpec GraphImpl
variable {α : Type} [DecidableEq α]

/-- what a client can observe of handle `h`, implementation model vs. specification -/
structure ObsEq (w : World α) (s : SpecWorld α) (h : Nat) : Prop where
  /-- `Vertices()` / `Vertex(id)`: same vertex set, same payloads, no duplicates -/
  verts : ∀ v t, (v, t) ∈ vertices w h ↔ (v ∈ (s.view h).verts ∧ aget (s.cls h).tags v = some t)
  vertsNodup : (akeys (vertices w h)).Nodup
  /-- successors with weights are exactly the specification's edges … -/
  outs : ∀ u v wt, (v, wt) ∈ outEdges w h u ↔ (s.view h).weight u v = some wt
  /-- … and predecessors are exactly their mirror -/
  ins : ∀ u v wt, (u, wt) ∈ inEdges w h v ↔ (s.view h).weight u v = some wt
  /-- the adjacency maps have an entry for exactly the present vertices -/
  outKeys : ∀ v, v ∈ outKeys w h ↔ v ∈ (s.view h).verts
  inKeys : ∀ v, v ∈ inKeys w h ↔ v ∈ (s.view h).verts

/-- the specification keeps its own representation invariant -/
theorem spec_wf (ops : List (GOp α)) (hh : HandlesOk SpecWorld.empty ops) :
    ∀ c ∈ (specRun ops).classes, c.g.WF :=
  foldl_inv AllWF specStep (fun _ op h => step_wf h op) ops SpecWorld.empty
    (fun c hc => by simp [SpecWorld.empty] at hc)

/-- **C19_refines** — after any history of `Add, AddOverwrite, AddEdge(Weighted), RemoveEdge, Remove,
Copy, Reverse` that respects the precondition of `AddEdge*`, every live handle of the
implementation model shows exactly what the plain adjacency specification shows. -/
theorem refines (ops : List (GOp α)) (hh : HandlesOk SpecWorld.empty ops) (hr : Respects ops) :
    (implRun true ops).handles.length = (specRun ops).handles.length ∧
    ∀ h, h < (specRun ops).handles.length → ObsEq (implRun true ops) (specRun ops) h := by
  have hsim := run_obs ops hh hr
  refine ⟨hsim.len, fun h hlt => ?_⟩
  have hr := hsim.repC hlt
  refine ⟨?_, hr.hash.nd, ?_, ?_, ?_, ?_⟩
  · intro v t
    rw [view_verts]
    exact hr.hash.mem v t
  · intro u v wt
    rw [view_weight]
    exact hr.out.mem_edges u v wt
  · intro u v wt
    rw [view_weight]
    exact hr.inn.mem_edges v u wt
  · intro v
    rw [view_verts]
    unfold GraphImpl.outKeys
    rw [mem_akeys_iff]
    exact hr.out.keys v
  · intro v
    rw [view_verts]
    unfold GraphImpl.inKeys
    rw [mem_akeys_iff]
    exact hr.inn.keys v

/-- consequence: successors and predecessors are mirrors of one another on every handle -/
theorem mirror (ops : List (GOp α)) (hh : HandlesOk SpecWorld.empty ops) (hr : Respects ops)
    (h : Nat) (hlt : h < (specRun ops).handles.length) (u v : α) (wt : Int) :
    (v, wt) ∈ outEdges (implRun true ops) h u ↔ (u, wt) ∈ inEdges (implRun true ops) h v := by
  have ho := (refines ops hh hr).2 h hlt
  rw [ho.outs, ho.ins]

/-- reversing twice is the identity (specification level: same class, same orientation) -/
theorem reverse_reverse (s : SpecWorld α) (h : Nat) :
    let s2 := specStep (specStep s (.reverse h)) (.reverse s.handles.length)
    s2.handle (s.handles.length + 1) = s.handle h := by
  simp [specStep, SpecWorld.handle, List.getD_eq_getElem?_getD]

/-- a copy is independent: an operation on the copy's handle leaves every older class untouched
(specification level; `refines` transports it to the implementation model) -/
theorem copy_independent (s : SpecWorld α) (h : Nat) (op : GOp α)
    (hop : match op with
      | .add k _ _ | .addow k _ _ | .edge k _ _ _ | .redge k _ _ | .remove k _ => k = s.handles.length
      | _ => False)
    (c : Nat) (hc : c < s.classes.length) :
    (specStep (specStep s (.copy h)) op).classes[c]? = s.classes[c]? :=
  copy_indep s h op hop c hc

/-- the concrete failing history of finding F11 (`Reverse` without `init`): the unrepaired model
does *not* refine the specification — proved by evaluation, replayed on the code before the fix -/
theorem counterexample_reverse_nil :
    vertices (implRun false ([.new, .reverse 0, .add 0 2 3] : List (GOp Nat))) 1 = [] ∧
    ((specRun ([.new, .reverse 0, .add 0 2 3] : List (GOp Nat))).view 1).verts = [2] := by
  decide

/-- non-vacuity: a history with an overwrite, a re-weighted edge, a copy and a reversed view
satisfies the hypotheses of `refines` -/
example : let ops : List (GOp Nat) :=
    [.new, .add 0 1 1, .add 0 2 1, .edge 0 1 2 5, .reverse 0, .copy 1, .edge 1 1 2 7, .addow 2 1 9, .remove 2 2]
    HandlesOk SpecWorld.empty ops ∧ Respects ops := by
  refine ⟨?_, ?_⟩
  · simp only [HandlesOk]; decide
  · unfold Respects; decide

end ArgMapper.C19
