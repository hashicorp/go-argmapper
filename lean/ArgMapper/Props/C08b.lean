import ArgMapper.Props.C05
import ArgMapper.Props.C08
import ArgMapper.Proofs.RedefStatic
/-!
# C08 (continued) — Redefine succeeds whenever every target parameter is permitted by the input filter

Property theorem only.  Fragment of the property's premise: converters with at most one input, no
subtype labels, each name denoting a single type (compared the way `reflect.StructOf` compares field
names: after upper-casing the first letter).  For **every oracle** (any requirement order, any
root-first real paths) and an empty memo table.
-/
namespace ArgMapper.C08
open ArgMapper

/-- the context the planning run of `Redefine` executes in: the graph with the filter-gated root edges,
stand-in bodies that return zero values -/
def redefCtx (e : TypeEnv) (b : Builder) (funcs : Nat → Option FuncDesc) (target : FuncDesc)
    (fin : Option Filter) (outCount : Nat → Nat) : Ctx :=
  { env := e, g := (callGraph {} e b funcs target true fin).cg.g,
    funcOf := fun k => (C01.allFuncs b funcs target).find? (fun f => f.key == k), beh := zeroBeh outCount }

/-- each name denotes a single type: two labels of the scenario (supplied values, parameters, results)
whose names give the same struct field name have the same type -/
def NamesSingleType (b : Builder) (fs : List FuncDesc) : Prop :=
  let ls : List Label := b.named.map (fun p => { name := p.1, ty := p.2.ty, sub := "" }) ++
    fs.flatMap (fun f => f.input.labels ++ f.output.labels)
  ∀ l₁ ∈ ls, ∀ l₂ ∈ ls, l₁.name ≠ "" → upper l₁.name = upper l₂.name → l₁.name = l₂.name ∧ l₁.ty = l₂.ty

/-- **C08_succeeds_when_permitted (subtype-free)** — every parameter of the target passes the input
filter and the output filter admits its results: the planning run succeeds, for every oracle. -/
theorem succeeds_when_permitted (e : TypeEnv) (ht : ImplTrans e)
    (b : Builder) (funcs : Nat → Option FuncDesc) (target : FuncDesc)
    (hc : C01.FuncsConsistent (C01.allFuncs b funcs target))
    (hsf : C05.SubtypeFree b (C01.allFuncs b funcs target))
    (hsi : C05.SingleInput (b.convs.filterMap funcs))
    (hwf : C05.SetsWF (b.convs.filterMap funcs))
    (htk : C05.TypedKeysOK b)
    (hkey : ∀ f ∈ b.convs.filterMap funcs, f.key ≠ target.key)
    (hnames : NamesSingleType b (C01.allFuncs b funcs target))
    (fin fout : Option Filter)
    (hperm : ∀ l ∈ target.input.labels, passes e fin l.ty = true)
    (hout : outputsPass e target fout = true)
    (outCount : Nat → Nat) (fuel : Nat) (hfuel : 2 ≤ fuel) (orc : List OrcItem) :
    let cgr := callGraph {} e b funcs target true fin
    let r := redefine (redefCtx e b funcs target fin outCount) cgr target fout fuel (initSt cgr.cg [] orc)
    (∃ ls, r = .ok ls) ∨ (∃ w, r = .badOracle w) := by
  intro cgr r
  have H : Complete.Hyps e b funcs target := ⟨hc, hsf.1, hsf.2.1, hsf.2.2, hsi, htk, hkey, hwf⟩
  exact RedefC.redefine_succeeds H ht hnames fin fout hperm hout outCount fuel hfuel orc

end ArgMapper.C08
