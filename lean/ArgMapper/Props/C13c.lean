import ArgMapper.Model.ErrMsg
/-!
# C13: the message mentions each missing argument (and each input, each converter)

About the model of `ErrArgumentUnsatisfied.Error()` in `Model/ErrMsg.lean`, which the correspondence
run compares line by line with the text the real error returns.
-/
namespace ArgMapper.C13
open ArgMapper

theorem mem_sectionLines {x : String} {ls : List String} (h : x ∈ ls) : x ∈ sectionLines ls := by
  unfold sectionLines
  split
  · next he => rw [List.isEmpty_iff.1 he] at h; cases h
  · exact h

/-- every line of each of the four lists is a line of the message -/
theorem mem_unsatMessageLines (tyName : Nat → String) (fn : String) (params args inputs : List Label)
    (convs : List ConvShown) (x : String)
    (h : x ∈ missingLines tyName args ∨ x ∈ fullArgLines tyName params ∨ x ∈ inputLines tyName inputs ∨
      x ∈ convLines tyName convs) :
    x ∈ unsatMessageLines tyName fn params args inputs convs := by
  simp only [unsatMessageLines, List.mem_append]
  rcases h with h | h | h | h
  · exact .inl (.inl (.inl (.inl (.inl (.inl (.inl (.inr (mem_sectionLines h))))))))
  · exact .inl (.inl (.inl (.inl (.inl (.inr (mem_sectionLines h))))))
  · exact .inl (.inl (.inl (.inr (mem_sectionLines h))))
  · exact .inl (.inr (mem_sectionLines h))

/-- **C13 (message)** — every missing argument has a line of its own in the message -/
theorem message_mentions_missing (tyName : Nat → String) (fn : String) (params args inputs : List Label)
    (convs : List ConvShown) (a : Label) (ha : a ∈ args) :
    ("    - " ++ renderValue tyName a) ∈ unsatMessageLines tyName fn params args inputs convs := by
  exact mem_unsatMessageLines _ _ _ _ _ _ _ (.inl (List.mem_map.2 ⟨a, ha, rfl⟩))

/-- … every supplied input too -/
theorem message_mentions_input (tyName : Nat → String) (fn : String) (params args inputs : List Label)
    (convs : List ConvShown) (a : Label) (ha : a ∈ inputs) :
    ("    - " ++ renderValue tyName a) ∈ unsatMessageLines tyName fn params args inputs convs := by
  exact mem_unsatMessageLines _ _ _ _ _ _ _
    (.inr (.inr (.inl (List.mem_append_right _ (List.mem_map.2 ⟨a, ha, rfl⟩)))))

/-- … and every converter by name -/
theorem message_mentions_converter (tyName : Nat → String) (fn : String) (params args inputs : List Label)
    (convs : List ConvShown) (c : ConvShown) (hc : c ∈ convs) :
    ("    - " ++ c.name) ∈ unsatMessageLines tyName fn params args inputs convs := by
  exact mem_unsatMessageLines _ _ _ _ _ _ _ (.inr (.inr (.inr (List.mem_append_right _
    (List.mem_flatMap.2 ⟨c, hc, List.mem_append_left _ (List.mem_append_left _ (List.mem_singleton.2 rfl))⟩)))))

/-- the rendering of a value shows its name (quoted), its type and its subtype -/
theorem renderValue_named (tyName : Nat → String) (l : Label) (hn : l.name ≠ "") (hs : l.sub ≠ "") :
    renderValue tyName l = s!"name: \"{l.name}\" (type: {tyName l.ty}, subtype: {l.sub})" := by
  rw [renderValue, if_pos hn, if_neg hs]

theorem renderValue_typed (tyName : Nat → String) (l : Label) (hn : l.name = "") (hs : l.sub ≠ "") :
    renderValue tyName l = s!"type: {tyName l.ty} (subtype: {l.sub})" := by
  rw [renderValue, if_neg (not_not_intro hn), if_neg hs]

end ArgMapper.C13
