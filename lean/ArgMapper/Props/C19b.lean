import ArgMapper.Props.C19
import ArgMapper.Proofs.GraphCorollaries
/-!
# C19 (continued) — the clauses of the property read off the implementation model

`C19.refines` relates every handle of the implementation model (`implRun true`, the transcription of
`graph.go`) to the adjacency specification.  The theorems here state the remaining clauses of the
property directly about what the implementation model reports — successors (`outEdges`),
predecessors (`inEdges`) and `vertices` — after a history extended by one more operation.
-/
namespace ArgMapper.C19
open ArgMapper AGraph GraphSpec GraphImpl
variable {α : Type} [DecidableEq α]

/-- **removing a vertex removes all its incident edges**: after `Remove(v)` on handle `h`, `v` is
no vertex of `h`, has neither successors nor predecessors, and is nobody's successor or predecessor -/
theorem remove_removes_incident (ops : List (GOp α)) (h : Nat) (v : α)
    (hh : HandlesOk SpecWorld.empty (ops ++ [.remove h v])) (hr : Respects (ops ++ [.remove h v])) :
    let w := implRun true (ops ++ [.remove h v])
    (∀ t, (v, t) ∉ vertices w h) ∧
    (∀ u wt, (u, wt) ∉ outEdges w h v ∧ (u, wt) ∉ inEdges w h v ∧
             (v, wt) ∉ outEdges w h u ∧ (v, wt) ∉ inEdges w h u) := by
  intro w
  obtain ⟨_, hx, hcok, hobs⟩ := obs_snoc ops _ hh hr
  have hlt : h < (specRun ops).handles.length := hx.1
  have hc := hcok h hlt
  have ho := hobs h hlt
  refine ⟨fun t hm => ?_, fun u wt => ⟨fun hm => ?_, fun hm => ?_, fun hm => ?_, fun hm => ?_⟩⟩
  · exact ((remove_verts _ h v hc v).1 ((ho.verts v t).1 hm).1).2 rfl
  · have := (ho.outs v u wt).1 hm
    rw [remove_weight _ h v hc] at this; simp at this
  · have := (ho.ins u v wt).1 hm
    rw [remove_weight _ h v hc] at this; simp at this
  · have := (ho.outs u v wt).1 hm
    rw [remove_weight _ h v hc] at this; simp at this
  · have := (ho.ins v u wt).1 hm
    rw [remove_weight _ h v hc] at this; simp at this

/-- `Remove(v)` touches nothing else on that handle: every edge between two other vertices stays -/
theorem remove_keeps_others (ops : List (GOp α)) (h : Nat) (v a b : α) (wt : Int)
    (hh : HandlesOk SpecWorld.empty (ops ++ [.remove h v])) (hr : Respects (ops ++ [.remove h v]))
    (ha : a ≠ v) (hb : b ≠ v) :
    (b, wt) ∈ outEdges (implRun true (ops ++ [.remove h v])) h a ↔ (b, wt) ∈ outEdges (implRun true ops) h a := by
  obtain ⟨⟨hh0, hr0⟩, hx, hcok, hobs⟩ := obs_snoc ops _ hh hr
  have hlt : h < (specRun ops).handles.length := hx.1
  rw [(hobs h hlt).outs, ((refines _ hh0 hr0).2 h hlt).outs, remove_weight _ h v (hcok h hlt)]
  simp [ha, hb]

/-- **`Reverse` is the mirror**: the successors reported by the reversed view (the new handle) are
exactly the predecessors reported by the original handle, weights included, and the vertices agree -/
theorem reverse_is_mirror (ops : List (GOp α)) (h : Nat)
    (hh : HandlesOk SpecWorld.empty (ops ++ [.reverse h])) (hr : Respects (ops ++ [.reverse h])) :
    let w := implRun true (ops ++ [.reverse h])
    let n := (specRun ops).handles.length
    (∀ u v wt, (v, wt) ∈ outEdges w n u ↔ (v, wt) ∈ inEdges w h u) ∧
    (∀ u v wt, (v, wt) ∈ inEdges w n u ↔ (v, wt) ∈ outEdges w h u) ∧
    (∀ v t, (v, t) ∈ vertices w n ↔ (v, t) ∈ vertices w h) := by
  intro w n
  obtain ⟨_, hx, _, hobs⟩ := obs_snoc ops _ hh hr
  have hlt : h < (specRun ops).handles.length := hx.1
  have hlen : (specStep (specRun ops) (.reverse h)).handles.length = n + 1 := List.length_append
  have hoN := hobs n (by omega)
  have hoH := hobs h (by omega)
  refine ⟨fun u v wt => ?_, fun u v wt => ?_, fun v t => ?_⟩
  · rw [hoN.outs, hoH.ins, reverse_weight _ h hlt]
  · rw [hoN.ins, hoH.outs, reverse_weight _ h hlt]
  · rw [hoN.verts, hoH.verts, view_verts, view_verts, (reverse_new _ h hlt).1]

/-- **a copy starts out equal**: right after `Copy()` the new handle reports what the original reports -/
theorem copy_starts_equal (ops : List (GOp α)) (h : Nat)
    (hh : HandlesOk SpecWorld.empty (ops ++ [.copy h])) (hr : Respects (ops ++ [.copy h])) :
    let w := implRun true (ops ++ [.copy h])
    let n := (specRun ops).handles.length
    (∀ u v wt, (v, wt) ∈ outEdges w n u ↔ (v, wt) ∈ outEdges w h u) ∧
    (∀ u v wt, (v, wt) ∈ inEdges w n u ↔ (v, wt) ∈ inEdges w h u) ∧
    (∀ v t, (v, t) ∈ vertices w n ↔ (v, t) ∈ vertices w h) := by
  intro w n
  obtain ⟨_, hx, hcok, hobs⟩ := obs_snoc ops _ hh hr
  have hlt : h < (specRun ops).handles.length := hx.1
  have hc := hcok h hlt
  have hlen : (specStep (specRun ops) (.copy h)).handles.length = n + 1 := List.length_append
  have hoN := hobs n (by omega)
  have hoH := hobs h (by omega)
  refine ⟨fun u v wt => ?_, fun u v wt => ?_, fun v t => ?_⟩
  · rw [hoN.outs, hoH.outs, copy_view _ h hlt hc]
  · rw [hoN.ins, hoH.ins, copy_view _ h hlt hc]
  · rw [hoN.verts, hoH.verts, copy_view _ h hlt hc, (copy_new _ h hlt hc).1]

/-- **copies are independent** (implementation model): a mutation through the copy's handle changes
nothing that any older handle `k` reports -/
theorem copy_independent_impl (ops : List (GOp α)) (h : Nat) (op : GOp α)
    (hop : match op with
      | .add k _ _ | .addow k _ _ | .edge k _ _ _ | .redge k _ _ | .remove k _ => k = (specRun ops).handles.length
      | _ => False)
    (hh : HandlesOk SpecWorld.empty (ops ++ [.copy h, op])) (hr : Respects (ops ++ [.copy h, op]))
    (k : Nat) (hk : k < (specRun ops).handles.length) :
    let w1 := implRun true ops
    let w2 := implRun true (ops ++ [.copy h, op])
    (∀ u v wt, (v, wt) ∈ outEdges w2 k u ↔ (v, wt) ∈ outEdges w1 k u) ∧
    (∀ u v wt, (v, wt) ∈ inEdges w2 k u ↔ (v, wt) ∈ inEdges w1 k u) ∧
    (∀ v t, (v, t) ∈ vertices w2 k ↔ (v, t) ∈ vertices w1 k) := by
  intro w1 w2
  have happ : ops ++ [GOp.copy h, op] = (ops ++ [.copy h]) ++ [op] := by simp
  have hh1 := (handlesOk_append ops [.copy h, op] _ hh).1
  have hr1 := respects_prefix ops _ hr
  have hc := (run_obs ops hh1 hr1).cok k hk
  have hrun : specRun (ops ++ [.copy h, op]) = specStep (specStep (specRun ops) (.copy h)) op := by
    rw [happ, specRun_snoc, specRun_snoc]
  have hlen : (specRun (ops ++ [.copy h, op])).handles.length = (specRun ops).handles.length + 1 := by
    rw [hrun, mut_handles _ op _ hop]; simp [specStep]
  have ho2 := (refines _ hh hr).2 k (by omega)
  have ho1 := (refines _ hh1 hr1).2 k hk
  rw [hrun] at ho2
  obtain ⟨e1, e2⟩ := copy_mut_old (specRun ops) h op hop k hk hc
  have ev : (specStep (specStep (specRun ops) (.copy h)) op).view k = (specRun ops).view k := by
    unfold SpecWorld.view; rw [e1, e2]
  refine ⟨fun u v wt => ?_, fun u v wt => ?_, fun v t => ?_⟩
  · rw [ho2.outs, ho1.outs, ev]
  · rw [ho2.ins, ho1.ins, ev]
  · rw [ho2.verts, ho1.verts, ev, e2]

/-- **overwriting a vertex keeps its edges**: `AddOverwrite(v)` replaces the payload only -/
theorem overwrite_keeps_edges (ops : List (GOp α)) (h : Nat) (v : α) (tag : Nat)
    (hh : HandlesOk SpecWorld.empty (ops ++ [.addow h v tag])) (hr : Respects (ops ++ [.addow h v tag])) :
    let w1 := implRun true ops
    let w2 := implRun true (ops ++ [.addow h v tag])
    (∀ a b wt, (b, wt) ∈ outEdges w2 h a ↔ (b, wt) ∈ outEdges w1 h a) ∧
    (∀ a b wt, (b, wt) ∈ inEdges w2 h a ↔ (b, wt) ∈ inEdges w1 h a) ∧
    (v, tag) ∈ vertices w2 h := by
  intro w1 w2
  obtain ⟨⟨hh0, hr0⟩, hx, hcok, hobs⟩ := obs_snoc ops _ hh hr
  have hlt : h < (specRun ops).handles.length := hx.1
  have hc := hcok h hlt
  have ho := hobs h hlt
  have ho0 := (refines _ hh0 hr0).2 h hlt
  refine ⟨fun a b wt => ?_, fun a b wt => ?_, ?_⟩
  · rw [ho.outs, ho0.outs, addow_weight _ h v tag hc]
  · rw [ho.ins, ho0.ins, addow_weight _ h v tag hc]
  · exact (ho.verts v tag).2 (addow_vert _ h v tag hc)

/-- non-vacuity of the premises used above (remove on a copy of a reversed view) -/
example : let ops : List (GOp Nat) :=
    [.new, .add 0 1 1, .add 0 2 1, .edge 0 1 2 5, .reverse 0, .copy 1, .remove 2 2]
    HandlesOk SpecWorld.empty ops ∧ Respects ops := by
  refine ⟨?_, ?_⟩
  · simp only [HandlesOk]; decide
  · unfold Respects; decide

end ArgMapper.C19
