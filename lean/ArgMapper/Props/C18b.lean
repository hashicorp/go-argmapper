import ArgMapper.Props.C18
import ArgMapper.Proofs.DijkstraCorollaries
/-!
# C18 (continued) — consequences a caller relies on

All for non-negative weights without `int32` overflow (`NoOverflow`) and any *legal* pop order, i.e.
whatever order the heap and Go's map iteration produce among equal candidates.
-/
namespace ArgMapper.C18
open ArgMapper AGraph Dijkstra
variable {α : Type} [DecidableEq α]

/-- **schedule independence**: two legal pop orders (two map iteration orders / heap tie-breaks)
report the same distance for every vertex reachable from the source -/
theorem order_independent (g : AGraph α) (hwf : g.WF) (src : α) (hs : src ∈ g.verts) (p1 p2 : List α)
    (h1 : LegalPops g src p1) (h2 : LegalPops g src p2) (hno : NoOverflow g) (v : α) (hr : Reach g src v) :
    (run g src p1).dist v = (run g src p2).dist v :=
  DijkstraProofs.distSpec_unique (dist_exact g hwf src hs p1 h1 hno v hr).1
    (dist_exact g hwf src hs p2 h2 hno v hr).1

/-- the source is at distance 0 and its predecessor chain is the source alone -/
theorem source_zero (g : AGraph α) (hwf : g.WF) (src : α) (hs : src ∈ g.verts) (pops : List α)
    (hl : LegalPops g src pops) (hno : NoOverflow g) :
    (run g src pops).dist src = 0 ∧ (run g src pops).prev src = none := by
  obtain ⟨hd, hp, _⟩ := dist_exact g hwf src hs pops hl hno src (Reach.refl src)
  obtain ⟨_, _, r, hh, hrn⟩ := tree g src pops hl.2.1 src
  refine ⟨DijkstraProofs.distSpec_self hno.1 hd, ?_⟩
  have : r = src := by
    have := hp.1; rw [hh] at this; exact Option.some.inj this
  exact this ▸ hrn

/-- reported distances of reachable vertices are non-negative -/
theorem dist_nonneg (g : AGraph α) (hwf : g.WF) (src : α) (hs : src ∈ g.verts) (pops : List α)
    (hl : LegalPops g src pops) (hno : NoOverflow g) (v : α) (hr : Reach g src v) :
    0 ≤ (run g src pops).dist v :=
  DijkstraProofs.distSpec_nonneg hno.1 (dist_exact g hwf src hs pops hl hno v hr).1

/-- **triangle inequality at termination**: no edge out of a reachable vertex could still improve
a distance (the reported distances are a fixed point of relaxation) -/
theorem triangle (g : AGraph α) (hwf : g.WF) (src : α) (hs : src ∈ g.verts) (pops : List α)
    (hl : LegalPops g src pops) (hno : NoOverflow g) (u v : α) (w : Int) (hr : Reach g src u)
    (he : g.weight u v = some w) :
    (run g src pops).dist v ≤ (run g src pops).dist u + w :=
  DijkstraProofs.distSpec_edge (dist_exact g hwf src hs pops hl hno u hr).1
    (dist_exact g hwf src hs pops hl hno v
      (Reach.step hr (AGraph.hasEdge_iff_weight.2 ⟨w, he⟩))).1 he

/-- the predecessor of a reachable vertex other than the source is reachable, is joined to it by an
existing edge, and accounts exactly for its distance -/
theorem pred_edge (g : AGraph α) (hwf : g.WF) (src : α) (hs : src ∈ g.verts) (pops : List α)
    (hl : LegalPops g src pops) (hno : NoOverflow g) (v : α) (hr : Reach g src v) (hne : v ≠ src) :
    ∃ u w, (run g src pops).prev v = some u ∧ g.weight u v = some w ∧ Reach g src u ∧
      (run g src pops).dist v = (run g src pops).dist u + w := by
  rcases DijkstraProofs.final_link ⟨hwf, hs, hno.1, hno.2⟩ pops hl v hr with
    ⟨h1, _, _⟩ | ⟨a, w, h1, _, h3, h4, h5⟩
  · exact absurd h1 hne
  · exact ⟨a, w, h1, h4, h3, h5⟩

end ArgMapper.C18
