import ArgMapper.Model.Dijkstra
import ArgMapper.Generated.Consts
import ArgMapper.Proofs.DijkstraGreedy
import ArgMapper.Proofs.DijkstraExact
/-!
# C18 — shortest-path search returns exact distances and real paths

The lemmas on which the proofs rest are in `ArgMapper/Proofs/Dijkstra*.lean`.
All statements are about `Dijkstra.run g src pops`, the transcription of `Graph.Dijkstra`
replaying an arbitrary pop order, with Go's `int32` arithmetic.
-/
namespace ArgMapper.C18
open ArgMapper AGraph Dijkstra DijkstraProofs
variable {α : Type} [DecidableEq α]

/-- the constants regenerated from `/repo/internal/graph/dijkstra.go` are the ones modelled -/
theorem consts_tie : Generated.dijkstraInf = maxInt32 ∧ Generated.dijkstraWidth = 32 := by
  decide

/-- **C18_tree** — for *all* weights (negative included) and every duplicate-free pop order, legal
or not: following predecessors from any vertex terminates within the fuel `EdgeToPath` is given
here, ends in a vertex without predecessor, and walks along existing edges.  This is the lemma
the resolver proofs use (the resolver runs Dijkstra with weight −1 edges). -/
theorem tree (g : AGraph α) (src : α) (pops : List α) (hnd : pops.Nodup) (v : α) :
    IsPath g (chain g src pops v) ∧ (chain g src pops v).getLast? = some v ∧
    ∃ r, (chain g src pops v).head? = some r ∧ (run g src pops).prev r = none := by
  obtain ⟨_, h1, h2, h3⟩ := DijkstraProofs.tree_aux g src pops hnd v
  exact ⟨h1, h2, h3⟩

/-- **C18_dist_exact / C18_path_real** — non-negative weights, no overflow, any legal pop order:
every vertex reachable from the source gets its true minimum distance, and its predecessor chain
is a source-to-vertex path of existing edges whose weights sum to that distance. -/
theorem dist_exact (g : AGraph α) (hwf : g.WF) (src : α) (hs : src ∈ g.verts) (pops : List α)
    (hl : LegalPops g src pops) (hno : NoOverflow g) (v : α) (hr : Reach g src v) :
    IsDist g src v ((run g src pops).dist v) ∧
    PathFromTo g src v (chain g src pops v) ∧
    pathWeight g (chain g src pops v) = (run g src pops).dist v := by
  have h : Hyp g src := ⟨hwf, hs, hno.1, hno.2⟩
  unfold chain
  obtain ⟨hleg, hnd, hcov⟩ := hl
  have hB : Base g src (run g src pops) := base_run h hleg
  have hvis : ∀ x, x ∈ g.verts → x ∈ (run g src pops).visited := by
    intro x hx; rw [run_visited]; exact List.mem_reverse.2 (hcov x hx)
  obtain ⟨hc, hp, hlast, r, hhead, hrn⟩ := tree_aux g src pops hnd v
  generalize edgeToPath (run g src pops).prev (pops.length + 1) v = c at hc hp hlast hhead
  generalize run g src pops = s at hB hvis hc hrn
  have hvv := hvis v (reach_verts h hr)
  -- along the chain every vertex is visited and reachable, so its `Link` is known
  have hG : ∀ x ∈ c, x ∈ s.visited ∧ Reach g src x :=
    pchain_all (G := fun x => x ∈ s.visited ∧ Reach g src x)
      (fun x u hx hpx => let ⟨h1, h2, _⟩ := (hB x hx.1 hx.2).2.of_prev_some hpx; ⟨h1, h2⟩)
      c v hc hlast ⟨hvv, hr⟩
  have hlink : ∀ x ∈ c, Link g src s x := fun x hx => (hB x (hG x hx).1 (hG x hx).2).2
  have hrs := (hlink r (List.mem_of_mem_head? hhead)).of_prev_none hrn
  have hw := pchain_weight (g := g) (dist := s.dist) c r v hc
    (fun x hx u hpx => ((hlink x hx).of_prev_some hpx).2.2) hhead hlast
  refine ⟨(hB v hvv hr).1, ⟨hrs.1 ▸ hhead, hlast, hp⟩, ?_⟩
  rw [hw, hrs.2]; omega

/-- **C18_unreachable** — all weights, any duplicate-free pop order: the predecessor chain of a
vertex that is not reachable from the source never contains the source. -/
theorem unreachable (g : AGraph α) (src : α) (pops : List α) (hnd : pops.Nodup) (v : α)
    (hnr : ¬ Reach g src v) : src ∉ chain g src pops v := by
  obtain ⟨_, h1, h2, _⟩ := DijkstraProofs.tree_aux g src pops hnd v
  exact fun hm => hnr (AGraph.reach_of_mem_path h1 h2 src hm)

/-- legal pop orders exist (the greedy one), so `dist_exact` is not vacuous -/
theorem greedy_legal (g : AGraph α) (hwf : g.WF) (src : α) (hs : src ∈ g.verts) :
    LegalPops g src (greedyPops g g.verts.length (init src)) := by
  -- (neither hypothesis is needed: the greedy order is legal on any graph and source)
  have _ := hwf; have _ := hs
  exact ⟨greedy_legalFrom g _ _, (greedy_nodup g _ _).1,
    fun v hv => greedy_cover g _ _ (List.length_filter_le _ _) v hv (List.not_mem_nil)⟩

/-- non-vacuity: a concrete cyclic graph with a zero-weight edge meets every hypothesis -/
example : let g : AGraph Nat := ⟨[0, 1, 2, 3], [(0, 1, 2), (1, 2, 0), (0, 2, 5), (2, 0, 1)]⟩
    g.WF ∧ NoOverflow g ∧ LegalPops g 0 [0, 1, 2, 3] ∧ Reach g 0 2 ∧
    (run g 0 [0, 1, 2, 3]).dist 2 = 2 := by
  intro g
  refine ⟨⟨by decide, by decide, by decide⟩, ⟨by decide, by decide⟩, ⟨by decide, by decide, ?_⟩, ?_,
    by decide⟩
  · intro v hv; exact hv
  · exact Reach.step (Reach.step (Reach.refl 0) (v := 0) (w := 1) (by decide)) (w := 2) (by decide)

end ArgMapper.C18
