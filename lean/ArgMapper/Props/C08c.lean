import ArgMapper.Props.C08b
import ArgMapper.Proofs.RedefCallable
import ArgMapper.Proofs.RedefCallableCE
import ArgMapper.Proofs.RedefLowerNames
/-!
# C08 (continued) — the redefined function is callable

Property theorems only (helper lemmas in `ArgMapper/Proofs/RedefCallableMono.lean` — the unpruned `Call`
graph grows with the supplied values —, `ArgMapper/Proofs/RedefCallable.lean` — the builder of the redefined
function's call, the paths of the planning run —, and `ArgMapper/Proofs/RedefCallableCE.lean` — the
counterexamples to the original statements).

Same fragment as `succeeds_when_permitted` (converters with at most one input, no subtype labels, each name
denoting a single type).  When the planning run of `Redefine` succeeded with declared inputs `ls` — for any
oracle — the call the redefined function makes (the original options plus one value of exactly the
declared type for every declared input) is never refused for lack of an argument: every parameter of
the target is found reachable when the graph is built (`callable_graph`), and, by C05's completeness on
this fragment, the call then executes the target or reports the error of a function body (`callable`).

**Correction.**  The statements as first written are false: see `LowerNames`, `counterexample_upper_case_name`,
`counterexample_name_with_two_types` and the comment after `callable_graph`.
-/
namespace ArgMapper.C08
open ArgMapper

/-- (added hypothesis) the names of parameters and results are lower-case, as `Named` stores them
(`setNamed` keys the named map by `lower name`).  True of every label the model of `NewFunc` produces
(`newFunc_lowerNames`); a `FuncDesc` holds arbitrary labels. -/
def LowerNames (fs : List FuncDesc) : Prop :=
  ∀ f ∈ fs, ∀ l ∈ f.input.labels ++ f.output.labels, lower l.name = l.name

/-- value sets built by the model of `NewFunc` satisfy the condition of `LowerNames`: `fieldLabel` sets a
label's name to `""` or to `lower …`, and `lower` is idempotent (`C16.lower_idem`) -/
theorem newFunc_lowerNames (ins outs : List Param) (fs : FuncSig) (h : newFunc ins outs = .ok fs) :
    ∀ l ∈ fs.input.labels ++ fs.output.labels, lower l.name = l.name := by
  intro l hl
  rcases List.mem_append.1 hl with hl | hl
  · exact (RedefC.newFunc_setLower h).1 l hl
  · exact (RedefC.newFunc_setLower h).2 l hl

/-- **C08_callable (graph level)** (corrected statement: hypotheses `hnames` and `hlow` added, see below) -/
theorem callable_graph (e : TypeEnv) (ht : ImplTrans e)
    (b : Builder) (funcs : Nat → Option FuncDesc) (target : FuncDesc)
    (hc : C01.FuncsConsistent (C01.allFuncs b funcs target))
    (hsf : C05.SubtypeFree b (C01.allFuncs b funcs target))
    (hsi : C05.SingleInput (b.convs.filterMap funcs))
    (hwf : C05.SetsWF (b.convs.filterMap funcs))
    (htk : C05.TypedKeysOK b)
    (hkey : ∀ f ∈ b.convs.filterMap funcs, f.key ≠ target.key)
    (hnames : NamesSingleType b (C01.allFuncs b funcs target))
    (hlow : LowerNames (C01.allFuncs b funcs target))
    (fin fout : Option Filter) (outCount : Nat → Nat) (fuel : Nat) (orc : List OrcItem) (ls : List Label)
    (hok : redefine (redefCtx e b funcs target fin outCount) (callGraph {} e b funcs target true fin) target fout fuel
            (initSt (callGraph {} e b funcs target true fin).cg [] orc) = .ok ls)
    (idOf : Label → Nat) :
    (callGraph {} e (withDeclared b ls idOf) funcs target false none).unsat = [] := by
  have H : Complete.Hyps e b funcs target := ⟨hc, hsf.1, hsf.2.1, hsf.2.2, hsi, htk, hkey, hwf⟩
  exact RedefC.callable_unsat H hnames hlow fin fout outCount fuel orc ls hok idOf

/- ORIGINAL STATEMENT of `callable_graph` — FALSE (corrected above).  It had neither `hnames` nor `hlow`:

    theorem callable_graph (e : TypeEnv) (ht : ImplTrans e)
        (b : Builder) (funcs : Nat → Option FuncDesc) (target : FuncDesc)
        (hc : C01.FuncsConsistent (C01.allFuncs b funcs target))
        (hsf : C05.SubtypeFree b (C01.allFuncs b funcs target))
        (hsi : C05.SingleInput (b.convs.filterMap funcs))
        (hwf : C05.SetsWF (b.convs.filterMap funcs))
        (htk : C05.TypedKeysOK b)
        (hkey : ∀ f ∈ b.convs.filterMap funcs, f.key ≠ target.key)
        (fin fout : Option Filter) (outCount : Nat → Nat) (fuel : Nat) (orc : List OrcItem) (ls : List Label)
        (hok : redefine (redefCtx e b funcs target fin outCount) (callGraph {} e b funcs target true fin) target fout fuel
                (initSt (callGraph {} e b funcs target true fin).cg [] orc) = .ok ls)
        (idOf : Label → Nat) :
        (callGraph {} e (withDeclared b ls idOf) funcs target false none).unsat = []

Why it fails:
1. `withDeclared` passes `Named(l.name, v)` and `setNamed` stores the value under `lower l.name`: the supplied
   vertex is `value (lower n) t`, the declared input's vertex is `value n t`.  A `FuncDesc` holds arbitrary
   labels; for a parameter named `"A"` the two differ and the parameter stays unsatisfied
   (`counterexample_upper_case_name`; every other hypothesis, `hnames` included, holds).  No label the model of
   `NewFunc` builds has such a name (`fieldLabel` lower-cases): an artefact of the abstract `FuncDesc`.
2. `Named(n, v)` overwrites the entry `n` of the named map.  When the caller supplied `n : T1` and the target has
   parameters `n : T1` and `n : T2`, the planning run takes `n : T1` as it is and declares `n : T2`
   (`fieldsOK` sees one field); the redefined function's `Named(n, v₂)` then replaces the caller's `n : T1` and
   that parameter is unsatisfied (`counterexample_name_with_two_types`; every other hypothesis, `hlow`
   included, holds).  Outside the property's premise (each name one type).
Correction: the fragment's own `NamesSingleType` (hypothesis of `succeeds_when_permitted`) and `LowerNames`.
What the proof uses is weaker: every named declared input has a lower-case name that no value supplied by the
caller has (`RedefC.declared_named`); two named declared inputs have different names because the planning run
checked `fieldsOK`.  Each of the two hypotheses is necessary by the matching counterexample, which satisfies
the other. -/

/-- counterexample 1 to the original statements: every original hypothesis and `NamesSingleType` hold, the
only parameter is named `"A"`, the planning run succeeds and declares it, and the `Call` graph of the
redefined function's call lists it as unsatisfied -/
theorem counterexample_upper_case_name :
    ∃ (e : TypeEnv) (b : Builder) (funcs : Nat → Option FuncDesc) (target : FuncDesc) (orc : List OrcItem)
      (ls : List Label),
      ImplTrans e ∧ C01.FuncsConsistent (C01.allFuncs b funcs target) ∧
      C05.SubtypeFree b (C01.allFuncs b funcs target) ∧ C05.SingleInput (b.convs.filterMap funcs) ∧
      C05.SetsWF (b.convs.filterMap funcs) ∧ C05.TypedKeysOK b ∧
      (∀ f ∈ b.convs.filterMap funcs, f.key ≠ target.key) ∧
      NamesSingleType b (C01.allFuncs b funcs target) ∧
      redefine (redefCtx e b funcs target none (fun _ => 0)) (callGraph {} e b funcs target true none) target none 5
        (initSt (callGraph {} e b funcs target true none).cg [] orc) = .ok ls ∧
      (callGraph {} e (withDeclared b ls (fun _ => 7)) funcs target false none).unsat = [⟨"A", 1, ""⟩] := by
  refine ⟨CallableCE.e0, Builder.empty, CallableCE.noFuncs, CallableCE.tgt1, CallableCE.orc1, [⟨"A", 1, ""⟩],
    (by intro a b c h; simp [CallableCE.e0] at h), CallableCE.consistent1, CallableCE.labels1,
    (fun f hf => by cases hf), (fun f hf => by cases hf), (fun p hp => by cases hp), (fun f hf => by cases hf),
    ?_, CallableCE.run1.1, CallableCE.run1.2⟩
  have hl : C01.allFuncs Builder.empty CallableCE.noFuncs CallableCE.tgt1 = [CallableCE.tgt1] := rfl
  rw [hl]
  unfold NamesSingleType
  decide +kernel

/-- counterexample 2 to the original statements: every original hypothesis and `LowerNames` hold, the caller
supplied `a : T1`, the target has parameters `a : T1` and `a : T2`, the planning run succeeds and declares
`a : T2`, and the `Call` graph of the redefined function's call lists `a : T1` as unsatisfied -/
theorem counterexample_name_with_two_types :
    ∃ (e : TypeEnv) (b : Builder) (funcs : Nat → Option FuncDesc) (target : FuncDesc) (orc : List OrcItem)
      (ls : List Label),
      ImplTrans e ∧ C01.FuncsConsistent (C01.allFuncs b funcs target) ∧
      C05.SubtypeFree b (C01.allFuncs b funcs target) ∧ C05.SingleInput (b.convs.filterMap funcs) ∧
      C05.SetsWF (b.convs.filterMap funcs) ∧ C05.TypedKeysOK b ∧
      (∀ f ∈ b.convs.filterMap funcs, f.key ≠ target.key) ∧
      LowerNames (C01.allFuncs b funcs target) ∧
      redefine (redefCtx e b funcs target none (fun _ => 0)) (callGraph {} e b funcs target true none) target none 5
        (initSt (callGraph {} e b funcs target true none).cg [] orc) = .ok ls ∧
      (callGraph {} e (withDeclared b ls (fun _ => 7)) funcs target false none).unsat = [⟨"a", 1, ""⟩] := by
  refine ⟨CallableCE.e0, CallableCE.b2, CallableCE.noFuncs, CallableCE.tgt2, CallableCE.orc2, [⟨"a", 2, ""⟩],
    (by intro a b c h; simp [CallableCE.e0] at h), CallableCE.consistent2, CallableCE.labels2,
    (fun f hf => by cases hf), (fun f hf => by cases hf), (fun p hp => by cases hp), (fun f hf => by cases hf),
    ?_, CallableCE.run2.1, CallableCE.run2.2⟩
  have hl : C01.allFuncs CallableCE.b2 CallableCE.noFuncs CallableCE.tgt2 = [CallableCE.tgt2] := rfl
  rw [hl]
  unfold LowerNames
  decide +kernel

/-- **C08_callable** — the call made by the redefined function ends in success or in the error a function
body reported, for every oracle and every behaviour.
(Corrected statement: hypotheses `hnames` and `hlow` added; the original, without them, fails on the same two
scenarios — the graph lists an unsatisfied parameter, so the call ends in `unsat`.) -/
theorem callable (e : TypeEnv) (ht : ImplTrans e)
    (b : Builder) (funcs : Nat → Option FuncDesc) (target : FuncDesc)
    (hc : C01.FuncsConsistent (C01.allFuncs b funcs target))
    (hsf : C05.SubtypeFree b (C01.allFuncs b funcs target))
    (hsi : C05.SingleInput (b.convs.filterMap funcs))
    (hwf : C05.SetsWF (b.convs.filterMap funcs))
    (htk : C05.TypedKeysOK b)
    (hkey : ∀ f ∈ b.convs.filterMap funcs, f.key ≠ target.key)
    (hnames : NamesSingleType b (C01.allFuncs b funcs target))
    (hlow : LowerNames (C01.allFuncs b funcs target))
    (fin fout : Option Filter) (outCount : Nat → Nat) (fuel : Nat) (orc : List OrcItem) (ls : List Label)
    (hok : redefine (redefCtx e b funcs target fin outCount) (callGraph {} e b funcs target true fin) target fout fuel
            (initSt (callGraph {} e b funcs target true fin).cg [] orc) = .ok ls)
    (idOf : Label → Nat)
    (beh : Nat → Nat → List PVal → BehOut) (fuel' : Nat) (hfuel : 2 ≤ fuel') (memo : List (Nat × Memo)) (orc' : List OrcItem) :
    let b' := withDeclared b ls idOf
    let r := callWith (C01.stdCtx e b' funcs target beh) (callGraph {} e b' funcs target false none) target fuel'
              (initSt (callGraph {} e b' funcs target false none).cg memo orc')
    (∃ res, r.1 = .ok res) ∨ (∃ ε, r.1 = .convErr ε) ∨ (∃ ε res, r.1 = .targetErr ε res) ∨ (∃ w, r.1 = .badOracle w) := by
  intro b' r
  have H : Complete.Hyps e b funcs target := ⟨hc, hsf.1, hsf.2.1, hsf.2.2, hsi, htk, hkey, hwf⟩
  have H' : Complete.Hyps e b' funcs target := RedefC.hyps_withDeclared H ls idOf
  have hsat : (callGraph {} e b' funcs target false none).unsat = [] :=
    callable_graph e ht b funcs target hc hsf hsi hwf htk hkey hnames hlow fin fout outCount fuel orc ls hok idOf
  rcases Complete.complete_core H' ht hsat beh False (fun h => h.elim) fuel' hfuel memo (fun h => h.elim) orc'
    with h | ⟨h, _⟩ | ⟨h, _⟩ | h
  · exact Or.inl h
  · exact Or.inr (Or.inl h)
  · exact Or.inr (Or.inr (Or.inl h))
  · exact Or.inr (Or.inr (Or.inr h))

/-- a graph with a non-empty unsatisfied list: the call is refused before anything runs -/
theorem unsat_refused (c : Ctx) (cgr : CallGraphResult) (target : FuncDesc) (fuel : Nat) (s0 : CallSt)
    (l : Label) (ls : List Label) (h : cgr.unsat = l :: ls) :
    (callWith c cgr target fuel s0).1 = .unsat (l :: ls) true := by
  rw [ReachEqs.callWith_graphUnsat c target fuel s0 (fun h' => by rw [h'] at h; cases h), h]

/- ORIGINAL STATEMENT of `callable` — FALSE (corrected above): the same statement without `hnames` and `hlow`.
In both scenarios of `CallableCE` the graph built for `withDeclared b ls idOf` has a non-empty unsatisfied list
(`counterexample_upper_case_name`, `counterexample_name_with_two_types`), so `callWith` returns
`.unsat … true` (`unsat_refused`) — not `ok`, `convErr`, `targetErr` or `badOracle`. -/

end ArgMapper.C08
