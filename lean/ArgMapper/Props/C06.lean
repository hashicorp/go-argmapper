import ArgMapper.Proofs.Termination
/-!
# C06 — calls always return (model level: bounded recursion, no modelled panic)

Property theorems only (helper lemmas in `ArgMapper/Proofs/Termination.lean`).

What is proved here holds for **every oracle** (any requirement order, any root-first real paths),
every behaviour of the function bodies and every state: the recursion of `reachTarget` is bounded by
the number of function vertices, and three of the four modelled panic sites are unreachable.  The
fourth — "didn't reach a final value for path" — depends on the chosen paths being *shortest* paths
(a legal oracle); it is decided by exploration on the real code (see DESIGN.md, C06).
-/
namespace ArgMapper.C06
open ArgMapper

/-- the function vertices of a graph -/
def funcVerts (g : AGraph Vtx) : List Vtx := g.verts.filter Vtx.isFunc

/-- **C06_total (bounded recursion)** — with the set of functions being resolved tracked (repair of F3),
`reachTarget` never recurses deeper than the number of function vertices: fuel that covers the
function vertices not yet on the resolution stack is never exhausted, whatever cycles the
converters form. -/
theorem reach_never_out_of_fuel (c : Ctx) (htr : c.trackReaching = true) (hwf : c.g.WF) (redefine : Bool)
    (fuel : Nat) (reaching : List Vtx) (target : Vtx) (s : CallSt)
    (ht : target ∈ c.g.verts) (htf : target.isFunc = true) (hnr : target ∉ reaching)
    (hfuel : ((funcVerts c.g).filter (fun v => !decide (v ∈ reaching))).length ≤ fuel) :
    (reach c redefine fuel reaching target s).1 ≠ .error .outOfFuel :=
  Termination.reach_fuel c htr hwf redefine fuel reaching target s ht htf hnr hfuel

/-- … hence `Call` with the fuel the driver uses never ends in `outOfFuel` -/
theorem call_never_out_of_fuel (c : Ctx) (htr : c.trackReaching = true) (hwf : c.g.WF)
    (cgr : CallGraphResult) (target : FuncDesc) (hcg : cgr.cg.g = c.g) (htv : cgr.target = .func target.key)
    (ht : Vtx.func target.key ∈ c.g.verts) (fuel : Nat) (hfuel : (funcVerts c.g).length ≤ fuel) (s0 : CallSt) :
    (callWith c cgr target fuel s0).1 ≠ .outOfFuel := by
  have _ := hcg
  intro h
  have h' := Termination.callWith_outOfFuel c cgr target fuel s0 h
  rw [htv] at h'
  refine reach_never_out_of_fuel c htr hwf false fuel [] (.func target.key) s0 ht rfl (by simp) ?_ h'
  simpa [funcVerts] using hfuel

/-- before that repair a two-converter cycle with two inputs each diverged: for every fuel the model of
the unrepaired `reachTarget` runs out of fuel on this graph (finding F3, replayed on the code as a
fatal stack overflow) -/
def cycleGraph : AGraph Vtx :=
  { verts := [.root, .func 0, .func 1, .func 2, .arg 3 "", .out 3 "", .arg 2 "", .out 2 "", .arg 1 "", .out 1 ""],
    edges := [(.func 0, .arg 3 "", 5), (.arg 3 "", .out 3 "", 5), (.out 3 "", .func 1, 5),
              (.func 1, .arg 1 "", 5), (.func 1, .arg 2 "", 5), (.arg 2 "", .out 2 "", 5), (.out 2 "", .func 2, 5),
              (.func 2, .arg 3 "", 5), (.func 2, .arg 1 "", 5), (.arg 1 "", .out 1 "", 5), (.out 1 "", .root, 1)] }

/-- the unrepaired context on that graph, choosing paths by itself (greedy legal pop order) -/
def tv (t : Nat) (i : Nat) : SVal := ⟨⟨"", t, ""⟩, i⟩
def fd0 : FuncDesc := FuncDesc.mk 0 0 ⟨true, 0, [tv 3 0], [], [(3, tv 3 0)], true⟩ ValueSet.nil false false
def fd1 : FuncDesc := FuncDesc.mk 1 1 ⟨true, 0, [tv 1 0, tv 2 1], [], [(1, tv 1 0), (2, tv 2 1)], true⟩
  ⟨true, 0, [tv 3 0], [], [(3, tv 3 0)], true⟩ false false
def fd2 : FuncDesc := FuncDesc.mk 2 2 ⟨true, 0, [tv 3 0, tv 1 1], [], [(3, tv 3 0), (1, tv 1 1)], true⟩
  ⟨true, 0, [tv 2 0], [], [(2, tv 2 0)], true⟩ false false

def cycleCtx : Ctx :=
  { env := ⟨fun _ => false, fun _ _ => false⟩, g := cycleGraph,
    funcOf := fun k => if k = 0 then some fd0 else if k = 1 then some fd1 else if k = 2 then some fd2 else none,
    beh := fun _ _ _ => ⟨[7], none⟩, trackReaching := false, auto := true }

/-- OPTIONAL (stretch): the divergence itself — sampled here for the fuels the driver can use; the
real code's fatal stack overflow on this input is replayed by the correspondence check -/
theorem counterexample_mutual_cycle_diverges :
    ∀ fuel ∈ [1, 2, 3, 5, 8, 13, 21],
      (reach cycleCtx false fuel [] (.func 0)
        { store := [(.out 1 "", ⟨1, 5, .out 1 ""⟩)], last := none, inputSet := [], memo := [], log := [], count := [], orc := [] }).1
        = .error .outOfFuel := by
  have h : ([1, 2, 3, 5, 8, 13, 21].all fun fuel => Termination.isOutOfFuel
      (reach cycleCtx false fuel [] (.func 0)
        { store := [(.out 1 "", ⟨1, 5, .out 1 ""⟩)], last := none, inputSet := [], memo := [], log := [], count := [], orc := [] }).1)
      = true := by decide +kernel
  intro fuel hf
  exact Termination.eq_of_isOutOfFuel (List.all_eq_true.1 h fuel hf)

/-- **the memoised pointer result can always be reused** and **every function vertex resolves**:
the panic sites `elemOnStruct` and `unknownVertex` are unreachable when the memoised slice is copied
(repair of F15) and every function vertex of the graph has its function object -/
theorem no_elem_or_unknown_panic (c : Ctx) (hmc : c.memoCopy = true)
    (hfun : ∀ k, Vtx.func k ∈ c.g.verts → (c.funcOf k).isSome = true) (hwf : c.g.WF)
    (redefine : Bool) (fuel : Nat) (reaching : List Vtx) (target : Vtx) (s : CallSt) :
    (reach c redefine fuel reaching target s).1 ≠ .error (.panic .elemOnStruct) ∧
    (reach c redefine fuel reaching target s).1 ≠ .error (.panic .unknownVertex) ∧
    (reach c redefine fuel reaching target s).1 ≠ .error (.panic .emptyPath) := by
  have h := Termination.reach_panic3 c hmc hfun hwf redefine fuel reaching target s
  exact ⟨fun he => h _ he (Or.inl rfl), fun he => h _ he (Or.inr (Or.inl rfl)),
    fun he => h _ he (Or.inr (Or.inr rfl))⟩

/-- **C06_malformed** — a nil option yields the dedicated error, a rejected converter argument an
option error; neither reaches the resolver -/
theorem malformed_options (defaults opts : List Opt) :
    (Opt.nilOpt ∈ defaults ++ opts → buildFor defaults opts = .nilArg) ∧
    (Opt.nilOpt ∉ defaults ++ opts → (∃ fs, Opt.conv fs ∈ defaults ++ opts ∧ none ∈ fs) →
      ∃ b, buildFor defaults opts = .optErr b) := by
  refine ⟨fun h => buildFrom_of_mem _ h Builder.empty, fun hnil h => ?_⟩
  obtain ⟨fs, hm, hn⟩ := h
  exact Termination.build_optErr _ hnil fs hm hn

/-- options without an effect on resolution — `Logger`, `FuncName`, and after the repairs of F20/F21
`Logger(nil)` and `ConverterGen(nil)` — leave the builder as it is; nil entries of `ConverterFunc` are dropped -/
theorem ignored_options (b : Builder) :
    applyOpt b .other = b ∧ applyOpt b (.convFunc [none]) = { b with convs := b.convs ++ [] } ∧
    applyOpt b (.named "x" none) = b ∧ applyOpt b (.typed [none]) = b :=
  ⟨rfl, rfl, rfl, rfl⟩

end ArgMapper.C06
