import ArgMapper.Model.Reach
import ArgMapper.Proofs.Once
/-!
# C11 (sequential) — a run-once function executes at most once; later uses see that result

Property theorems only (helper lemmas in `ArgMapper/Proofs/Once.lean`).

A history is any sequence of calls — any targets, graphs, behaviours, oracles, fuels — on shared
function objects: the run-once memo cells and the execution counters are threaded from one call to
the next, exactly as the real `Func` objects carry them.  (`Redefine` keeps none of the state of its
planning run — `redefine` returns only an outcome — so interleaved `Redefine`s do not appear.)
-/
namespace ArgMapper.C11
open ArgMapper

structure CallOp where
  c : Ctx
  cgr : CallGraphResult
  target : FuncDesc
  fuel : Nat
  orc : List OrcItem

structure HistSt where
  memo : List (Nat × Memo)
  count : List (Nat × Nat)
  log : List ExecEv

def stepCall (h : HistSt) (op : CallOp) : HistSt :=
  { memo := (callWith op.c op.cgr op.target op.fuel { initSt op.cgr.cg h.memo op.orc with count := h.count }).2.memo,
    count := (callWith op.c op.cgr op.target op.fuel { initSt op.cgr.cg h.memo op.orc with count := h.count }).2.count,
    log := h.log ++ (callWith op.c op.cgr op.target op.fuel { initSt op.cgr.cg h.memo op.orc with count := h.count }).2.log }

def runHistory (ops : List CallOp) : HistSt := ops.foldl stepCall { memo := [], count := [], log := [] }

/-- every function object with id `fid` that some call of the history could execute is run-once -/
def OnceEverywhere (ops : List CallOp) (fid : Nat) : Prop :=
  ∀ op ∈ ops, (op.target.id = fid → op.target.once = true) ∧
    ∀ k f, op.c.funcOf k = some f → f.id = fid → f.once = true

theorem runHistory_good (ops : List CallOp) (fid : Nat) (h : OnceEverywhere ops fid) :
    Once.Good fid (runHistory ops).memo (runHistory ops).log :=
  foldl_inv_mem (fun st : HistSt => Once.Good fid st.memo st.log) stepCall ops
    (fun st op hop hg => MemoLog.callWith_closed ((Once.good_closed (h op hop)).shift st.log) op.cgr op.fuel
      { initSt op.cgr.cg st.memo op.orc with count := st.count } (by simpa [MemoLog.On, initSt] using hg))
    _ (Once.Good_nil fid)

/-- **C11_once_sequential (at most once)** — over any history, the body of a run-once function is
invoked at most once -/
theorem once_at_most_once (ops : List CallOp) (fid : Nat) (h : OnceEverywhere ops fid) :
    ((runHistory ops).log.filter (fun e => e.fid == fid)).length ≤ 1 :=
  (runHistory_good ops fid h).1

/-- **C11_once_sequential (first result kept)** — once it has executed, its memo cell holds the result
of that execution for the rest of the history -/
theorem first_result_kept (ops : List CallOp) (fid : Nat) (h : OnceEverywhere ops fid) (ev : ExecEv)
    (hev : ev ∈ (runHistory ops).log) (hf : ev.fid = fid) :
    ∃ m, mapGet (runHistory ops).memo fid = some m ∧ m.res = ev.res :=
  (runHistory_good ops fid h).2 ev hev hf

/-- … and every use served from the memo returns exactly that result (outputs or error) without
executing anything -/
theorem memo_hit (c : Ctx) (f : FuncDesc) (am : ArgMap) (s : CallSt) (m : Memo) (hf : f.once = true)
    (hm : mapGet s.memo f.id = some m) :
    callDirect c f am s = (.ok (m.res, m.unwrapped), s) := by
  unfold callDirect
  rw [hf, if_pos rfl, hm]

/-- with the memoised slice copied before unwrapping (repair of F15) a memoised pointer-struct result
can be reused: `outputValues` never panics -/
theorem reuse_never_panics (c : Ctx) (hc : c.memoCopy = true) (f : FuncDesc) (r : BehOut) (unw : Bool) (s : CallSt) :
    ∃ s', outputValues c f r unw s = .ok s' := by
  unfold outputValues
  rw [if_neg (by simp [hc])]
  exact ⟨_, rfl⟩

/-- before that repair it did panic on the second use (finding F15) -/
def cexFunc : FuncDesc :=
  { id := 1, key := 1, input := ValueSet.nil,
    output := { hasStruct := true, ptrs := 1, values := [⟨⟨"", 2, ""⟩, 1⟩], named := [],
                typed := [(2, ⟨⟨"", 2, ""⟩, 1⟩)], lifted := false },
    hasErr := false, once := true }

def cexCtx : Ctx :=
  { env := ⟨fun _ => false, fun _ _ => false⟩, g := AGraph.empty, funcOf := fun _ => none,
    beh := fun _ _ _ => ⟨[7], none⟩, memoCopy := false }

theorem counterexample_ptr_result :
    (match outputValues cexCtx cexFunc ⟨[7], none⟩ true
        { store := [], last := none, inputSet := [], memo := [], log := [], count := [], orc := [] } with
      | .error (.panic .elemOnStruct) => true
      | _ => false) = true := by
  simp [outputValues, cexCtx, cexFunc]

end ArgMapper.C11
