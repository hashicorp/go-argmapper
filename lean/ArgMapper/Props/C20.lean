import ArgMapper.Model.Traverse
import ArgMapper.Model.Dijkstra
import ArgMapper.Proofs.TraverseDfs
import ArgMapper.Proofs.TraverseKahn
import ArgMapper.Proofs.TraverseReach
import ArgMapper.Proofs.TraverseTopo
/-!
# C20 — traversals and orderings are exact

The lemmas on which the proofs rest are in `ArgMapper/Proofs/Traverse*.lean`.
Iteration order of Go maps = representation order of `g.verts` / `g.edges`; every theorem holds
for every `g`, hence for every order.
-/
namespace ArgMapper.C20
open ArgMapper AGraph Traverse TraverseTopo
variable {α : Type} [DecidableEq α]

/-! ## DFS -/

/-- **C20_dfs (exactness)** — if no reportable vertex aborts, the callback is invoked on exactly the
reportable vertices, the traversal is not aborted and the fuel of the wrapper is never exhausted. -/
theorem dfs_exact (g : AGraph α) (hwf : g.WF) (cb : α → DfsAct) (start : α) (hs : start ∈ g.verts)
    (hna : ∀ w, Reportable g cb start w → cb w ≠ .abort) :
    (DFS g cb start).outOfFuel = false ∧ (DFS g cb start).aborted = false ∧
    ∀ w, w ∈ (DFS g cb start).log ↔ Reportable g cb start w := by
  obtain ⟨hI, hc⟩ := TraverseDfs.DFS_spec hwf cb start hs
  have hab : (DFS g cb start).aborted = false := by
    cases h : (DFS g cb start).aborted with
    | false => rfl
    | true =>
      obtain ⟨w, hw, hcb⟩ := hI.ab.mp h
      exact absurd hcb (hna w (hI.rep w hw))
  have hc := hc hab
  have hex : ∀ u, Explored g cb start u → u ∈ (DFS g cb start).visited := by
    intro u hu
    induction hu with
    | start => exact hI.st
    | step _ he _ hd ih =>
      rcases hc _ ih _ (mem_outs.mpr he) with h | h
      · exact h
      · exact hI.dv _ h hd
  refine ⟨hI.fuel, hab, fun w => ⟨hI.rep w, ?_⟩⟩
  rintro ⟨hws, u, hu, he⟩
  rcases hc u (hex u hu) w (mem_outs.mpr he) with h | h
  · exact (hI.vl w h).resolve_left hws
  · exact h

/-- **C20_dfs (once)** — with or without aborts: only reportable vertices are ever reported, and a
vertex the traversal descends into is reported exactly once. -/
theorem dfs_sound_once (g : AGraph α) (hwf : g.WF) (cb : α → DfsAct) (start : α) (hs : start ∈ g.verts) :
    (DFS g cb start).outOfFuel = false ∧
    (∀ w ∈ (DFS g cb start).log, Reportable g cb start w) ∧
    ((DFS g cb start).log.filter (fun w => decide (cb w = .descend))).Nodup :=
  have h := (TraverseDfs.DFS_spec hwf cb start hs).1
  ⟨h.fuel, h.rep, h.dn⟩

/-- **C20_dfs (abort)** — the traversal reports an error iff an aborting vertex was reported. -/
theorem dfs_abort (g : AGraph α) (hwf : g.WF) (cb : α → DfsAct) (start : α) (hs : start ∈ g.verts) :
    (DFS g cb start).aborted = true ↔ ∃ w ∈ (DFS g cb start).log, cb w = .abort :=
  (TraverseDfs.DFS_spec hwf cb start hs).1.ab

/-! ## topological sorting -/

theorem isTopoOrder_iff (g : AGraph α) (L : List α) : isTopoOrder g L = true ↔ IsTopo g L := by
  unfold isTopoOrder IsTopo
  simp only [Bool.and_eq_true, decide_eq_true_eq, List.all_eq_true]
  constructor
  · rintro ⟨⟨⟨hn, h1⟩, h2⟩, h3⟩
    refine ⟨hn, fun v => ⟨h2 v, h1 v⟩, ?_⟩
    intro e he
    have := h3 e he
    split at this
    · rename_i i j hi hj
      exact ⟨i, j, (TraverseKahn.indexOf?_eq_some_iff L hn _ _).mp hi, (TraverseKahn.indexOf?_eq_some_iff L hn _ _).mp hj,
        by simpa using this⟩
    · simp at this
  · rintro ⟨hn, h1, h2⟩
    refine ⟨⟨⟨hn, fun v hv => (h1 v).mpr hv⟩, fun v hv => (h1 v).mp hv⟩, ?_⟩
    intro e he
    obtain ⟨i, j, hi, hj, hij⟩ := h2 e he
    rw [(TraverseKahn.indexOf?_eq_some_iff L hn _ _).mpr hi, (TraverseKahn.indexOf?_eq_some_iff L hn _ _).mpr hj]
    simpa using hij

/-- **C20_kahn** — on an acyclic graph the result is a topological order; a cyclic graph is
refused (`none` models the `panic`).  The argument graph is a value, so "original untouched"
holds by construction in the model and is compared on the code by the harness. -/
theorem kahn_acyclic (g : AGraph α) (hwf : g.WF) (hac : ¬ Cyclic g) :
    ∃ L, kahnSort g = some L ∧ IsTopo g L :=
  (TraverseKahn.kahn_spec g hwf).resolve_right (fun h => hac h.2)

theorem kahn_cyclic (g : AGraph α) (hwf : g.WF) (hc : Cyclic g) : kahnSort g = none := by
  rcases TraverseKahn.kahn_spec g hwf with ⟨L, _, hL⟩ | h
  · exact absurd hc (TraverseKahn.isTopo_acyclic hL)
  · exact h.1

/-! ## strongly connected components -/

theorem reachB_iff (g : AGraph α) (hwf : g.WF) (u v : α) (hu : u ∈ g.verts) :
    reachB g u v = true ↔ Reach g u v :=
  TraverseReach.reachB_iff' g hwf u v hu

/-- **C20_scc_checker_sound_complete** — the executable checker applied to the outputs of the
model and of the real code decides exactly the specification. -/
theorem isSccPartition_iff (g : AGraph α) (hwf : g.WF) (comps : List (List α)) :
    isSccPartition g comps = true ↔ IsSccPartition g comps := by
  unfold isSccPartition IsSccPartition
  simp only [Bool.and_eq_true, decide_eq_true_iff, List.all_eq_true, TraverseReach.bool_beq_iff,
    Bool.not_eq_eq_eq_not, Bool.not_true, List.isEmpty_eq_false_iff]
  constructor
  · rintro ⟨⟨⟨⟨h1, h2⟩, h3⟩, h4⟩, h5⟩
    refine ⟨h1, fun v => ⟨h3 v, h2 v⟩, h4, ?_⟩
    intro c hc u hu v hv
    have huv : u ∈ g.verts := h3 u (List.mem_flatten.mpr ⟨c, hc, hu⟩)
    rw [h5 c hc u hu v hv, reachB_iff g hwf u v huv, reachB_iff g hwf v u hv]
  · rintro ⟨h1, h2, h4, h5⟩
    refine ⟨⟨⟨⟨h1, fun v hv => (h2 v).mpr hv⟩, fun v hv => (h2 v).mp hv⟩, h4⟩, ?_⟩
    intro c hc u hu v hv
    have huv : u ∈ g.verts := (h2 u).mp (List.mem_flatten.mpr ⟨c, hc, hu⟩)
    rw [h5 c hc u hu v hv, reachB_iff g hwf u v huv, reachB_iff g hwf v u hv]

/-! ## topological shortest paths agree with Dijkstra -/

/-- **C20_topo** — on an acyclic graph in which every vertex is reachable from `root`, relaxing in
any topological order yields, for every non-root vertex, its true minimum distance from the root
(the same value `C18.dist_exact` gives for Dijkstra), and the recorded predecessor lies on a
shortest path. -/
theorem topo_exact (g : AGraph α) (hwf : g.WF) (root : α) (hroot : ∀ v ∈ g.verts, Reach g root v)
    (L : List α) (hL : IsTopo g L) (v : α) (hv : v ∈ g.verts) (hne : v ≠ root) :
    ∃ d, lookupD (topoShortestPath g L).dist v = some d ∧ IsDist g root v d := by
  have hall : ∀ e ∈ g.edges, e ∈ edgeSeq g L := fun e he =>
    mem_edgeSeq.mpr ⟨(hL.2.1 _).mpr (hwf.mem_verts he).1, he⟩
  have hE := seq_edgeSeq hwf hroot hL
  have hI := inv_foldl hE (edgeSeq g L) [] _ (List.nil_append _) (inv_init g root)
  rw [← topo_eq_foldl] at hI
  obtain ⟨e, he, het⟩ := exists_in_edge (hroot v hv) hne
  obtain ⟨d, hd, _⟩ := hI.rel e (hall e he)
  rw [het] at hd
  refine ⟨d, hd, hI.wit v d hd, fun p hp1 hp2 hp3 => ?_⟩
  -- the root has no value, which stands for 0
  have hrootnone : lookupD (topoShortestPath g L).dist root = none :=
    hI.non root (fun e' he' => hE.rootIn e' he')
  have := lower_bound hall hI v p root hp1 hp2 hp3
  rw [hd, hrootnone] at this
  simpa using this

/-- non-vacuity -/
example : let g : AGraph Nat := ⟨[0, 1, 2, 3], [(0, 1, 2), (1, 2, 0), (0, 2, 5), (2, 3, 1)]⟩
    g.WF ∧ ¬ Cyclic g ∧ kahnSort g = some [0, 1, 2, 3] ∧ (∀ v ∈ g.verts, Reach g 0 v) := by
  intro g
  have hwf : g.WF := by
    refine ⟨by decide, by decide, by decide⟩
  refine ⟨hwf, ?_, by decide, ?_⟩
  · unfold Cyclic
    rw [TraverseReach.cyclic_iff_any g hwf]
    decide
  · rw [TraverseReach.all_reach_iff g hwf 0 (by decide)]
    decide

end ArgMapper.C20
