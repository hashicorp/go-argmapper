import ArgMapper.Props.C01b
import ArgMapper.Props.C06
import ArgMapper.Proofs.CompleteStatic
import ArgMapper.Proofs.CompleteCE
/-!
# C05 — conversion chaining is complete on well-behaved converter sets (subtype-free fragment)

Property theorems only (helper lemmas in `ArgMapper/Proofs/Complete.lean` — the walk invariants —,
`ArgMapper/Proofs/CompleteStatic.lean` — the shape of the subtype-free `Call` graph —, and
`ArgMapper/Proofs/CompleteCE.lean` — the counterexamples to the original statement).

Clause (a) of the property — every converter takes at most one input value, arbitrary cycles — is
proved here for the **subtype-free fragment** (no label carries a subtype; names, interfaces, all
function forms, providers and cycles are allowed) and for **every oracle**: once `callGraph` has
found every parameter reachable (its unsatisfied list is empty), `Call` executes the target — unless a
function body reports an error — whatever requirement order and whatever root-first real paths are
chosen.  Outcome stability on such sets is a corollary: the outcome *class* does not depend on the
oracle.  What is not covered: subtypes (rules R6/R7 make the walk depend on the path being shortest)
and clause (b) (multi-input acyclic sets need the nested searches to succeed); both are decided by the
correspondence run against the real code.

**Correction.**  The statements as first written are false for degenerate `FuncDesc`s, whose value sets
are arbitrary records: see `SetsWF`, `counterexample_duplicate_named_key`,
`counterexample_values_without_struct` and the comment after `complete_single`.
-/
namespace ArgMapper.C05
open ArgMapper

/-- no label of the scenario carries a subtype -/
def SubtypeFree (b : Builder) (fs : List FuncDesc) : Prop :=
  b.namedSub = [] ∧ b.typedSub = [] ∧
  ∀ f ∈ fs, (∀ l ∈ f.input.labels, l.sub = "") ∧ (∀ l ∈ f.output.labels, l.sub = "")

/-- every converter takes at most one input value -/
def SingleInput (fs : List FuncDesc) : Prop := ∀ f ∈ fs, f.input.values.length ≤ 1

/-- supplied values have the type they are keyed under (true of every builder `build` returns) -/
def TypedKeysOK (b : Builder) : Prop := ∀ p ∈ b.typed, p.1 = p.2.ty

/-- (added hypothesis) the converters' value sets are well formed the way Go builds them: the named
output map is a map (one entry per name), and an input set without a struct type lists no value.
`ValueSet.KeysOK` says neither; both hold of every set `newFunc` builds (`newFunc_setsWF`). -/
def SetsWF (fs : List FuncDesc) : Prop :=
  ∀ f ∈ fs, (f.output.named.map (·.1)).Nodup ∧ (f.input.hasStruct = false → f.input.values = [])

/-- value sets built by the model of `NewFunc` satisfy the conditions of `SetsWF` -/
theorem newFunc_setsWF (ins outs : List Param) (fs : FuncSig) (h : newFunc ins outs = .ok fs) :
    (fs.output.named.map (·.1)).Nodup ∧ (fs.input.hasStruct = false → fs.input.values = []) :=
  ⟨(Complete.newFunc_setWF h).2.1, (Complete.newFunc_setWF h).1.2⟩

/-- **C05_complete_single (subtype-free)** — single-input converters (cycles allowed), no subtypes, no
converter of the target's own Go type, every parameter found reachable by `callGraph`: for every
behaviour, every oracle and fuel ≥ 2 the call ends in success or in the error a function body
reported — never in an unsatisfied-argument error, a missing argument, a panic or exhausted fuel
(`badOracle` = the oracle does not fit the scenario, excluded from the real code by construction).
(Corrected statement: hypothesis `hwf` added, see below.) -/
theorem complete_single (e : TypeEnv) (ht : ImplTrans e)
    (b : Builder) (funcs : Nat → Option FuncDesc) (target : FuncDesc)
    (hc : C01.FuncsConsistent (C01.allFuncs b funcs target))
    (hsf : SubtypeFree b (C01.allFuncs b funcs target)) (hsi : SingleInput (b.convs.filterMap funcs))
    (hwf : SetsWF (b.convs.filterMap funcs))
    (htk : TypedKeysOK b)
    (hkey : ∀ f ∈ b.convs.filterMap funcs, f.key ≠ target.key)
    (hsat : (callGraph {} e b funcs target false none).unsat = [])
    (beh : Nat → Nat → List PVal → BehOut) (fuel : Nat) (hfuel : 2 ≤ fuel)
    (memo : List (Nat × Memo)) (orc : List OrcItem) :
    let r := callWith (C01.stdCtx e b funcs target beh) (callGraph {} e b funcs target false none) target fuel
              (initSt (callGraph {} e b funcs target false none).cg memo orc)
    (∃ res, r.1 = .ok res) ∨ (∃ ε, r.1 = .convErr ε) ∨ (∃ ε res, r.1 = .targetErr ε res) ∨ (∃ w, r.1 = .badOracle w) := by
  intro r
  have H : Complete.Hyps e b funcs target := ⟨hc, hsf.1, hsf.2.1, hsf.2.2, hsi, htk, hkey, hwf⟩
  rcases Complete.complete_core H ht hsat beh False (fun h => h.elim) fuel hfuel memo (fun h => h.elim) orc
    with h | ⟨h, _⟩ | ⟨h, _⟩ | h
  · exact Or.inl h
  · exact Or.inr (Or.inl h)
  · exact Or.inr (Or.inr (Or.inl h))
  · exact Or.inr (Or.inr (Or.inr h))

/- ORIGINAL STATEMENT of `complete_single` — FALSE (corrected above).  It had no hypothesis `hwf`:

    theorem complete_single (e : TypeEnv) (ht : ImplTrans e)
        (b : Builder) (funcs : Nat → Option FuncDesc) (target : FuncDesc)
        (hc : C01.FuncsConsistent (C01.allFuncs b funcs target))
        (hsf : SubtypeFree b (C01.allFuncs b funcs target)) (hsi : SingleInput (b.convs.filterMap funcs))
        (htk : TypedKeysOK b)
        (hkey : ∀ f ∈ b.convs.filterMap funcs, f.key ≠ target.key)
        (hsat : (callGraph {} e b funcs target false none).unsat = [])
        (beh : Nat → Nat → List PVal → BehOut) (fuel : Nat) (hfuel : 2 ≤ fuel)
        (memo : List (Nat × Memo)) (orc : List OrcItem) :
        let r := callWith (C01.stdCtx e b funcs target beh) (callGraph {} e b funcs target false none) target fuel
                  (initSt (callGraph {} e b funcs target false none).cg memo orc)
        (∃ res, r.1 = .ok res) ∨ (∃ ε, r.1 = .convErr ε) ∨ (∃ ε res, r.1 = .targetErr ε res) ∨ (∃ w, r.1 = .badOracle w)

Why it fails: a `FuncDesc` holds two arbitrary `ValueSet` records, and `FuncsConsistent` (`KeysOK`) only
says that every map entry is keyed by what it holds and holds a member of the value list.
1. The named output map may hold two entries under one name with different types.  `funcGraph` creates a
   value vertex for *each* entry, `outputValues` looks each vertex up by name and finds the *first* entry,
   so the second vertex receives a value of the first entry's type; a typed argument fed from that vertex
   refuses it and the walk ends without a final value: `panic finalValue`
   (`counterexample_duplicate_named_key`).
2. An input set with `hasStruct = false` counts as empty (`ValueSet.empty`), so the function vertex hangs
   off the root, although `values` lists a parameter.  That parameter's vertex may be pruned; a path
   `root, func, …` is then real, the nested search finds nothing missing, and `callDirect` looks the
   parameter up in an empty argument map: `missingArg` (`counterexample_values_without_struct`).
Neither record is a value set of the real code (`newFunc_setsWF`).  Correction (smallest found, each half
is necessary by the matching counterexample, which satisfies the other half): `SetsWF` for the converters. -/

/-- counterexample 1 to the original statement: every original hypothesis holds, the named output map of
the only converter has two entries under one name, and the call panics -/
theorem counterexample_duplicate_named_key :
    ∃ (e : TypeEnv) (b : Builder) (funcs : Nat → Option FuncDesc) (target : FuncDesc)
      (beh : Nat → Nat → List PVal → BehOut) (orc : List OrcItem),
      ImplTrans e ∧ C01.FuncsConsistent (C01.allFuncs b funcs target) ∧
      SubtypeFree b (C01.allFuncs b funcs target) ∧ SingleInput (b.convs.filterMap funcs) ∧ TypedKeysOK b ∧
      (∀ f ∈ b.convs.filterMap funcs, f.key ≠ target.key) ∧
      (∀ f ∈ b.convs.filterMap funcs, f.input.hasStruct = false → f.input.values = []) ∧
      (callGraph {} e b funcs target false none).unsat = [] ∧
      (callWith (C01.stdCtx e b funcs target beh) (callGraph {} e b funcs target false none) target 5
        (initSt (callGraph {} e b funcs target false none).cg [] orc)).1 = .panic .finalValue := by
  refine ⟨CompleteCE.e0, CompleteCE.b1, CompleteCE.funcs1, CompleteCE.tgt, CompleteCE.beh0, CompleteCE.orc1,
    (by intro a b c h; simp [CompleteCE.e0] at h), CompleteCE.consistent1, CompleteCE.labels1, ?_, (fun p hp => by cases hp), ?_, ?_,
    CompleteCE.run1.1, CompleteCE.run1.2⟩
  · unfold SingleInput; decide
  · decide
  · decide

/-- counterexample 2 to the original statement: every original hypothesis holds, the named output maps
are maps, the only converter's input set lists a value without having a struct type, and the call ends in
`missingArg` -/
theorem counterexample_values_without_struct :
    ∃ (e : TypeEnv) (b : Builder) (funcs : Nat → Option FuncDesc) (target : FuncDesc)
      (beh : Nat → Nat → List PVal → BehOut) (orc : List OrcItem),
      ImplTrans e ∧ C01.FuncsConsistent (C01.allFuncs b funcs target) ∧
      SubtypeFree b (C01.allFuncs b funcs target) ∧ SingleInput (b.convs.filterMap funcs) ∧ TypedKeysOK b ∧
      (∀ f ∈ b.convs.filterMap funcs, f.key ≠ target.key) ∧
      (∀ f ∈ b.convs.filterMap funcs, (f.output.named.map (·.1)).Nodup) ∧
      (callGraph {} e b funcs target false none).unsat = [] ∧
      (callWith (C01.stdCtx e b funcs target beh) (callGraph {} e b funcs target false none) target 5
        (initSt (callGraph {} e b funcs target false none).cg [] orc)).1 = .missingArg := by
  refine ⟨CompleteCE.e0, CompleteCE.b1, CompleteCE.funcs2, CompleteCE.tgt, CompleteCE.beh0, CompleteCE.orc2,
    (by intro a b c h; simp [CompleteCE.e0] at h), CompleteCE.consistent2, CompleteCE.labels2, ?_, (fun p hp => by cases hp), ?_, ?_,
    CompleteCE.run2.1, CompleteCE.run2.2⟩
  · unfold SingleInput; decide
  · decide
  · decide

/-- **C05_stable** — on such sets, as long as no function reports an error, two runs that differ only in
their oracles (map iteration orders, tie-breaking) both succeed.
(Corrected statement: hypothesis `hwf` added; the original, without it, fails on the same two scenarios —
their bodies report no error, their memo table is empty, and the outcome is not `badOracle`.) -/
theorem stable (e : TypeEnv) (ht : ImplTrans e)
    (b : Builder) (funcs : Nat → Option FuncDesc) (target : FuncDesc)
    (hc : C01.FuncsConsistent (C01.allFuncs b funcs target))
    (hsf : SubtypeFree b (C01.allFuncs b funcs target)) (hsi : SingleInput (b.convs.filterMap funcs))
    (hwf : SetsWF (b.convs.filterMap funcs))
    (htk : TypedKeysOK b)
    (hkey : ∀ f ∈ b.convs.filterMap funcs, f.key ≠ target.key)
    (hsat : (callGraph {} e b funcs target false none).unsat = [])
    (beh : Nat → Nat → List PVal → BehOut) (hne : ∀ f n a, (beh f n a).err = none)
    (fuel : Nat) (hfuel : 2 ≤ fuel) (orc₁ orc₂ : List OrcItem) :
    let run := fun orc => (callWith (C01.stdCtx e b funcs target beh) (callGraph {} e b funcs target false none) target fuel
              (initSt (callGraph {} e b funcs target false none).cg [] orc)).1
    (∀ w, run orc₁ ≠ .badOracle w) → (∀ w, run orc₂ ≠ .badOracle w) →
      (∃ r₁, run orc₁ = .ok r₁) ∧ (∃ r₂, run orc₂ = .ok r₂) := by
  intro run h1 h2
  have H : Complete.Hyps e b funcs target := ⟨hc, hsf.1, hsf.2.1, hsf.2.2, hsi, htk, hkey, hwf⟩
  have key : ∀ orc, (∀ w, run orc ≠ .badOracle w) → ∃ r, run orc = .ok r := by
    intro orc hb
    rcases Complete.complete_core H ht hsat beh True (fun _ => hne) fuel hfuel []
      (fun _ p hp => by cases hp) orc with h | ⟨_, h⟩ | ⟨_, h⟩ | ⟨w, h⟩
    · exact h
    · exact absurd trivial h
    · exact absurd trivial h
    · exact absurd h (hb w)
  exact ⟨key orc₁ h1, key orc₂ h2⟩

/- ORIGINAL STATEMENT of `stable` — FALSE (corrected above): the same statement without `hwf`.  In both
scenarios of `CompleteCE` the bodies report no error (`beh0`), the memo table is empty and the outcome is
`panic finalValue` / `missingArg` — not `badOracle`, not `ok` (take `orc₁ = orc₂`). -/

end ArgMapper.C05
