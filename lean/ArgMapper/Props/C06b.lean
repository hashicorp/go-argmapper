import ArgMapper.Props.C03
import ArgMapper.Props.C05
import ArgMapper.Props.C06
import ArgMapper.Proofs.WalkPanicStatic
import ArgMapper.Proofs.WalkPanicCE
/-!
# C06 (continued) — the last modelled panic sites under a legal oracle

Property theorems only (helper lemmas in `ArgMapper/Proofs/WalkPanic.lean` — the walk invariants —,
`ArgMapper/Proofs/WalkPanicStatic.lean` — the shape of the `Call` graph and the shortest-path argument —,
and `ArgMapper/Proofs/WalkPanicCE.lean` — the counterexample to the original statement).

`C06.no_elem_or_unknown_panic` shows three of the modelled panic sites unreachable for every oracle.  The
remaining ones — "didn't reach a final value for path" (`panic finalValue`), `reflect.Value.Set` with a
non-assignable value (`panic setNotAssignable`) and the last-resort guard of `callDirect` (`missingArg`) —
are treated here for the full label language (names, subtypes, interfaces), every converter set (any
arity, cycles), every behaviour, and every **legal** oracle (each path is `choosePath` for some legal
complete pop order on the re-weighted reversed copy).

**Correction.**  The statement as first written is false in its third conjunct: see
`counterexample_missing_arg` and the comment after `no_walk_panic`.  What holds:

* `no_walk_panic_partial_final_set` — the original hypotheses, the two panics: never reached;
* `no_walk_panic` — corrected: with `ParamsKept` (every converter whose vertex survives pruning keeps all
  its parameter vertices) none of the three outcomes is reached;
* `no_walk_panic_partial_single_input` — the original statement, all three conjuncts, for converter sets
  in which every converter takes at most one input value (`ParamsKept` is then a theorem).
-/
namespace ArgMapper.C06
open ArgMapper

/-- (added hypothesis) pruning did not split a converter from one of its parameters: every converter
whose function vertex is still in the graph still has the vertex of each of its parameters there.
It fails exactly when a converter has several inputs of which some, but not all, can be obtained. -/
def ParamsKept (e : TypeEnv) (b : Builder) (funcs : Nat → Option FuncDesc) (target : FuncDesc) : Prop :=
  ∀ f ∈ b.convs.filterMap funcs,
    Vtx.func f.key ∈ (callGraph {} e b funcs target false none).cg.g.verts →
    ∀ v ∈ f.input.values, v.lab.vertex ∈ (callGraph {} e b funcs target false none).cg.g.verts

theorem hyps_of (e : TypeEnv) (ht : ImplTrans e) (b : Builder) (funcs : Nat → Option FuncDesc) (target : FuncDesc)
    (hb : C03.BuilderOK b) (hc : C01.FuncsConsistent (C01.allFuncs b funcs target))
    (hwf : C05.SetsWF (C01.allFuncs b funcs target)) : WalkPanic.Hyps e b funcs target :=
  ⟨ht, hc, hb.1, hb.2, hwf⟩

/-- **C06_no_walk_panic**, corrected (hypothesis `hkept` added) — for every legal oracle the call never ends
in "didn't reach a final value", in `reflect.Value.Set` with a non-assignable value, or in the "this is a
bug" guard of `callDirect`. -/
theorem no_walk_panic (e : TypeEnv) (ht : ImplTrans e)
    (b : Builder) (funcs : Nat → Option FuncDesc) (target : FuncDesc)
    (hb : C03.BuilderOK b)
    (hc : C01.FuncsConsistent (C01.allFuncs b funcs target))
    (hwf : C05.SetsWF (C01.allFuncs b funcs target))
    (hkept : ParamsKept e b funcs target)
    (hsmall : C03.SmallGraph (callGraph {} e b funcs target false none).cg.g)
    (beh : Nat → Nat → List PVal → BehOut) (fuel : Nat)
    (memo : List (Nat × Memo)) (orc : List OrcItem)
    (hleg : ∀ it ∈ orc, C03.LegalItem (callGraph {} e b funcs target false none).cg.g it) :
    let r := callWith (C01.stdCtx e b funcs target beh) (callGraph {} e b funcs target false none) target fuel
              (initSt (callGraph {} e b funcs target false none).cg memo orc)
    r.1 ≠ .panic .finalValue ∧ r.1 ≠ .panic .setNotAssignable ∧ r.1 ≠ .missingArg := by
  intro r
  have H := hyps_of e ht b funcs target hb hc hwf
  have _ := hsmall; have _ := hleg  -- needed only before the repair of F22
  obtain ⟨h1, h2, h3⟩ := WalkPanic.core_items H beh True
    (fun _ hsat => WalkPanic.reqs_of_kept beh hsat hkept) fuel memo orc
  exact ⟨h1, h2, h3 trivial⟩

/- ORIGINAL STATEMENT of `no_walk_panic` — FALSE (corrected above).  It had no hypothesis `hkept`:

    theorem no_walk_panic (e : TypeEnv) (ht : ImplTrans e)
        (b : Builder) (funcs : Nat → Option FuncDesc) (target : FuncDesc)
        (hb : C03.BuilderOK b)
        (hc : C01.FuncsConsistent (C01.allFuncs b funcs target))
        (hwf : C05.SetsWF (C01.allFuncs b funcs target))
        (hsmall : C03.SmallGraph (callGraph {} e b funcs target false none).cg.g)
        (beh : Nat → Nat → List PVal → BehOut) (fuel : Nat)
        (memo : List (Nat × Memo)) (orc : List OrcItem)
        (hleg : ∀ it ∈ orc, C03.LegalItem (callGraph {} e b funcs target false none).cg.g it) :
        let r := callWith (C01.stdCtx e b funcs target beh) (callGraph {} e b funcs target false none) target fuel
                  (initSt (callGraph {} e b funcs target false none).cg memo orc)
        r.1 ≠ .panic .finalValue ∧ r.1 ≠ .panic .setNotAssignable ∧ r.1 ≠ .missingArg

Why it fails (third conjunct only; the first two are `no_walk_panic_partial_final_set`): pruning keeps
every vertex that the reverse search from the root reaches.  A converter `func(A, B) C` is reached as soon
as *one* of its inputs is (say `A`, supplied), so its vertex and its output `C` stay, while the vertex of
the unobtainable input `B` is removed — together with the requirement edge `func → arg B`.  `callGraph`
reports nothing unsatisfied (it only looks at the target's own parameters), the only path to the target's
parameter `C` runs through the converter, the nested `reachTarget` of the converter sees the single
requirement `arg A` (already filled), and `callDirect` then looks `B` up in the argument map: "argument
cannot be satisfied: type: B. This is a bug in the go-argmapper library …" — in the model, `missingArg`.
`WalkPanicCE.missingArg_reached` / `counterexample_missing_arg` is that scenario, kernel-checked with
every hypothesis (legal oracle included); it was replayed on the real library with the same outcome:

    f, _ := argmapper.NewFunc(func(c C) int { return 1 })
    res := f.Call(argmapper.Typed(A{1}), argmapper.Converter(func(a A, b B) C { return C{a.X} }))

Correction (smallest found): `ParamsKept` — a converter that survives pruning keeps all its parameter
vertices.  It is necessary in the sense that the counterexample violates nothing else, and it is a
theorem for converters with at most one input (`no_walk_panic_partial_single_input`). -/

/-- the counterexample to the original statement: every original hypothesis holds (value sets built by
`newFunc`, builder built by `build`, legal oracle) and the call ends in `missingArg` -/
theorem counterexample_missing_arg :
    ∃ (e : TypeEnv) (b : Builder) (funcs : Nat → Option FuncDesc) (target : FuncDesc)
      (beh : Nat → Nat → List PVal → BehOut) (orc : List OrcItem),
      ImplTrans e ∧ C03.BuilderOK b ∧ C01.FuncsConsistent (C01.allFuncs b funcs target) ∧
      C05.SetsWF (C01.allFuncs b funcs target) ∧
      C03.SmallGraph (callGraph {} e b funcs target false none).cg.g ∧
      (∀ it ∈ orc, C03.LegalItem (callGraph {} e b funcs target false none).cg.g it) ∧
      ¬ ParamsKept e b funcs target ∧
      (callWith (C01.stdCtx e b funcs target beh) (callGraph {} e b funcs target false none) target 5
        (initSt (callGraph {} e b funcs target false none).cg [] orc)).1 = .missingArg := by
  obtain ⟨h1, h2, h3, h4, h5, h6, h7, _⟩ := WalkPanicCE.missingArg_reached
  refine ⟨WalkPanicCE.e0, WalkPanicCE.b, WalkPanicCE.funcs, WalkPanicCE.tgt, WalkPanicCE.beh0, WalkPanicCE.orc,
    h1, h2, h3, h4, h5, h6, ?_, h7⟩
  -- the converter's vertex `func 1` is in the pruned graph `WalkPanicCE.G`, the vertex `arg 2` of its second parameter is not
  unfold ParamsKept
  simp only [WalkPanicCE.cgr_eq]
  decide +kernel

/-- **C06_no_walk_panic (the two panic sites)** — the ORIGINAL hypotheses: for every legal oracle the call
never panics with "didn't reach a final value for path" nor in `reflect.Value.Set`.
(`setNotAssignable` does not depend on the oracle being legal; `finalValue` did before the repair of finding F22
(`hopCopies := false`): the path `…, value n t s, value n t "", arg t ""` is real, and walking it left the argument
vertex empty — a shortest path takes the direct edge `value n t s → arg t ""` instead;
`WalkPanicCE.finalValue_needs_legal` is a scenario without any converter in which, in the pre-repair context, that
real but non-shortest path makes the call panic; with the repaired hop (`hopCopies := true`, the default used here)
the same scenario succeeds, `WalkPanicCE.finalValue_illegal_ok_after_repair`.) -/
theorem no_walk_panic_partial_final_set (e : TypeEnv) (ht : ImplTrans e)
    (b : Builder) (funcs : Nat → Option FuncDesc) (target : FuncDesc)
    (hb : C03.BuilderOK b)
    (hc : C01.FuncsConsistent (C01.allFuncs b funcs target))
    (hwf : C05.SetsWF (C01.allFuncs b funcs target))
    (hsmall : C03.SmallGraph (callGraph {} e b funcs target false none).cg.g)
    (beh : Nat → Nat → List PVal → BehOut) (fuel : Nat)
    (memo : List (Nat × Memo)) (orc : List OrcItem)
    (hleg : ∀ it ∈ orc, C03.LegalItem (callGraph {} e b funcs target false none).cg.g it) :
    let r := callWith (C01.stdCtx e b funcs target beh) (callGraph {} e b funcs target false none) target fuel
              (initSt (callGraph {} e b funcs target false none).cg memo orc)
    r.1 ≠ .panic .finalValue ∧ r.1 ≠ .panic .setNotAssignable := by
  intro r
  have H := hyps_of e ht b funcs target hb hc hwf
  have _ := hsmall; have _ := hleg  -- needed only before the repair of F22
  obtain ⟨h1, h2, _⟩ := WalkPanic.core_items H beh False (fun h => h.elim) fuel memo orc
  exact ⟨h1, h2⟩

/-- converters with at most one input value keep their parameter through pruning -/
theorem paramsKept_of_single (e : TypeEnv) (ht : ImplTrans e)
    (b : Builder) (funcs : Nat → Option FuncDesc) (target : FuncDesc)
    (hb : C03.BuilderOK b)
    (hc : C01.FuncsConsistent (C01.allFuncs b funcs target))
    (hwf : C05.SetsWF (C01.allFuncs b funcs target))
    (hsi : C05.SingleInput (b.convs.filterMap funcs)) : ParamsKept e b funcs target :=
  WalkPanic.paramsKept_of_single (hyps_of e ht b funcs target hb hc hwf) hsi

/-- **C06_no_walk_panic (single-input converter sets)** — the ORIGINAL statement, all three conjuncts, when
every converter takes at most one input value (names, subtypes, interfaces, cycles allowed; the target
may have any number of parameters) -/
theorem no_walk_panic_partial_single_input (e : TypeEnv) (ht : ImplTrans e)
    (b : Builder) (funcs : Nat → Option FuncDesc) (target : FuncDesc)
    (hb : C03.BuilderOK b)
    (hc : C01.FuncsConsistent (C01.allFuncs b funcs target))
    (hwf : C05.SetsWF (C01.allFuncs b funcs target))
    (hsi : C05.SingleInput (b.convs.filterMap funcs))
    (hsmall : C03.SmallGraph (callGraph {} e b funcs target false none).cg.g)
    (beh : Nat → Nat → List PVal → BehOut) (fuel : Nat)
    (memo : List (Nat × Memo)) (orc : List OrcItem)
    (hleg : ∀ it ∈ orc, C03.LegalItem (callGraph {} e b funcs target false none).cg.g it) :
    let r := callWith (C01.stdCtx e b funcs target beh) (callGraph {} e b funcs target false none) target fuel
              (initSt (callGraph {} e b funcs target false none).cg memo orc)
    r.1 ≠ .panic .finalValue ∧ r.1 ≠ .panic .setNotAssignable ∧ r.1 ≠ .missingArg :=
  no_walk_panic e ht b funcs target hb hc hwf (paramsKept_of_single e ht b funcs target hb hc hwf hsi)
    hsmall beh fuel memo orc hleg

end ArgMapper.C06
