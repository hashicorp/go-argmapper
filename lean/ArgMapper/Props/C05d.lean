import ArgMapper.Props.C05c
import ArgMapper.Proofs.AnyOracle
/-!
# C05 / C06 (continued) — after the repair of F22 the chosen paths need not be shortest

Property theorems only (helper lemmas in `ArgMapper/Proofs/AnyOracle.lean`).  With the repaired walk (`hopCopies = true`, the default of `C01.stdCtx`) a named
vertex entered over the named-to-named edge holds the value it takes, so neither the "final value" panic
nor the refusal of a satisfiable call depends any more on the oracle being legal: the statements of
`C06.no_walk_panic_partial_final_set` and `C05.complete_single_legal` hold for **every** oracle (any
requirement order, any root-first real paths) — a superset of what Dijkstra can return.
-/
namespace ArgMapper.C05
open ArgMapper

/-- **C06_no_walk_panic (every oracle, repaired walk)** -/
theorem no_walk_panic_any_oracle (e : TypeEnv) (ht : ImplTrans e)
    (b : Builder) (funcs : Nat → Option FuncDesc) (target : FuncDesc)
    (hb : C03.BuilderOK b)
    (hc : C01.FuncsConsistent (C01.allFuncs b funcs target))
    (hwf : SetsWF (C01.allFuncs b funcs target))
    (beh : Nat → Nat → List PVal → BehOut) (fuel : Nat)
    (memo : List (Nat × Memo)) (orc : List OrcItem) :
    let r := callWith (C01.stdCtx e b funcs target beh) (callGraph {} e b funcs target false none) target fuel
              (initSt (callGraph {} e b funcs target false none).cg memo orc)
    r.1 ≠ .panic .finalValue ∧ r.1 ≠ .panic .setNotAssignable := by
  intro r
  obtain ⟨h1, h2, _⟩ := WalkPanic.core_items (C06.hyps_of e ht b funcs target hb hc hwf) beh False
    (fun h => h.elim) fuel memo orc
  exact ⟨h1, h2⟩

/-- **C05_complete_single (full label language, every oracle, repaired walk)** -/
theorem complete_single_any_oracle (e : TypeEnv) (ht : ImplTrans e)
    (b : Builder) (funcs : Nat → Option FuncDesc) (target : FuncDesc)
    (hb : C03.BuilderOK b)
    (hc : C01.FuncsConsistent (C01.allFuncs b funcs target))
    (hsi : SingleInput (b.convs.filterMap funcs))
    (hwf : SetsWF (C01.allFuncs b funcs target))
    (hkey : ∀ f ∈ b.convs.filterMap funcs, f.key ≠ target.key)
    (hsat : (callGraph {} e b funcs target false none).unsat = [])
    (beh : Nat → Nat → List PVal → BehOut) (fuel : Nat)
    (hfuel : (C06.funcVerts (callGraph {} e b funcs target false none).cg.g).length + 1 ≤ fuel)
    (memo : List (Nat × Memo)) (orc : List OrcItem) :
    let r := callWith (C01.stdCtx e b funcs target beh) (callGraph {} e b funcs target false none) target fuel
              (initSt (callGraph {} e b funcs target false none).cg memo orc)
    (∃ res, r.1 = .ok res) ∨ (∃ ε, r.1 = .convErr ε) ∨ (∃ ε res, r.1 = .targetErr ε res) ∨ (∃ w, r.1 = .badOracle w) := by
  exact CompleteLegal.single_core (C06.hyps_of e ht b funcs target hb hc hwf) beh hsi hkey hsat fuel hfuel memo orc

/-- **C05_stable (full label language, repaired walk)** — on single-input sets, as long as no function reports an
error, two runs that differ only in their oracles both succeed -/
theorem stable_any_oracle (e : TypeEnv) (ht : ImplTrans e)
    (b : Builder) (funcs : Nat → Option FuncDesc) (target : FuncDesc)
    (hb : C03.BuilderOK b)
    (hc : C01.FuncsConsistent (C01.allFuncs b funcs target))
    (hsi : SingleInput (b.convs.filterMap funcs))
    (hwf : SetsWF (C01.allFuncs b funcs target))
    (hkey : ∀ f ∈ b.convs.filterMap funcs, f.key ≠ target.key)
    (hsat : (callGraph {} e b funcs target false none).unsat = [])
    (beh : Nat → Nat → List PVal → BehOut) (hne : ∀ f n a, (beh f n a).err = none) (fuel : Nat)
    (hfuel : (C06.funcVerts (callGraph {} e b funcs target false none).cg.g).length + 1 ≤ fuel)
    (orc₁ orc₂ : List OrcItem) :
    let run := fun orc => (callWith (C01.stdCtx e b funcs target beh) (callGraph {} e b funcs target false none) target fuel
              (initSt (callGraph {} e b funcs target false none).cg [] orc)).1
    (∀ w, run orc₁ ≠ .badOracle w) → (∀ w, run orc₂ ≠ .badOracle w) →
      (∃ r₁, run orc₁ = .ok r₁) ∧ (∃ r₂, run orc₂ = .ok r₂) := by
  intro run h1 h2
  have H := C06.hyps_of e ht b funcs target hb hc hwf
  exact ⟨AnyOracle.stable_core H beh hne hsi hkey hsat fuel hfuel orc₁ h1,
    AnyOracle.stable_core H beh hne hsi hkey hsat fuel hfuel orc₂ h2⟩

end ArgMapper.C05
