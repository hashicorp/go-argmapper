import ArgMapper.Model.Hist
/-!
# C09: Redefine is invisible to every later use

Stated as a refinement: a history of `Call`s and `Redefine`s on shared function objects shows its
callers — in every `Call` — exactly what the same history *without the Redefines* shows, and leaves
the function objects in the same state.  Together with `C09.redefine_ignores_original_behaviour`
(no original body runs during planning) this is the property: "after any number of Redefine calls
the original function and every converter behave exactly as before … a run-once converter still
executes (once) on its first real use".

The model's `Redefine` has no state result *by construction*; that the real code agrees is what the
`hist` and `redef` correspondence runs check (execution counters, value-set snapshots and memo
effects around every real Redefine).
-/
namespace ArgMapper.C09

/-- a Redefine leaves the function objects as they were -/
theorem redefine_keeps_state (fuel : Nat) (h : HistState) (c : Ctx) (cgr : CallGraphResult) (t : FuncDesc)
    (fo : Option Filter) (orc : List OrcItem) :
    (histStep fuel h (.redefine c cgr t fo orc)).1 = h := rfl

/-- **refinement**: dropping the Redefines from a history changes neither the final state of the
function objects nor anything a `Call` of the history returns or executes -/
theorem redefines_transparent (fuel : Nat) (h : HistState) (ops : List HistOp) :
    (runHist fuel h ops).1 = (runHist fuel h (ops.filter HistOp.isCall)).1 ∧
    (runHist fuel h ops).2.filter HistObs.isCall = (runHist fuel h (ops.filter HistOp.isCall)).2 := by
  induction ops generalizing h with
  | nil => exact ⟨rfl, rfl⟩
  | cons op rest ih =>
    cases op with
    | call c cgr t orc =>
      have := ih (histStep fuel h (.call c cgr t orc)).1
      simp only [List.filter, HistOp.isCall, runHist, histStep, HistObs.isCall] at this ⊢
      exact ⟨this.1, by rw [this.2]⟩
    | redefine c cgr t fo orc =>
      have := ih h
      simp only [List.filter, HistOp.isCall, runHist, histStep, HistObs.isCall] at this ⊢
      exact this

theorem filter_isCall_eq_nil {ops : List HistOp} (hall : ∀ op ∈ ops, op.isCall = false) :
    ops.filter HistOp.isCall = [] :=
  List.filter_eq_nil_iff.2 fun op hop => by rw [hall op hop]; exact Bool.false_ne_true

/-- any number of Redefines in a row leaves every run-once cell as it was: a function that has not
run yet still has no result, so its first real use executes its body -/
theorem redefines_keep_memo (fuel : Nat) (h : HistState) (ops : List HistOp)
    (hall : ∀ op ∈ ops, op.isCall = false) :
    (runHist fuel h ops).1 = h := by
  rw [(redefines_transparent fuel h ops).1, filter_isCall_eq_nil hall]; rfl

/-- … and the calls after them return what they return without them -/
theorem call_after_redefines (fuel : Nat) (h : HistState) (rds : List HistOp)
    (hall : ∀ op ∈ rds, op.isCall = false) (c : Ctx) (cgr : CallGraphResult) (t : FuncDesc) (orc : List OrcItem) :
    (runHist fuel h (rds ++ [.call c cgr t orc])).2.filter HistObs.isCall
      = (runHist fuel h [.call c cgr t orc]).2 := by
  rw [(redefines_transparent fuel h (rds ++ [HistOp.call c cgr t orc])).2, List.filter_append,
    filter_isCall_eq_nil hall]; rfl

end ArgMapper.C09
