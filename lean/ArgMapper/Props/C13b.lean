import ArgMapper.Proofs.LibCompat
/-!
# C05 / C13 (continued) — what the edge rules realise, exactly

Property theorem only.  `compatB` is the documented matching table (C01); `libCompatB` was written by hand
as "what the library's edge rules actually realise" and is what the checks use to classify a refused
parameter as a *matching gap* (known findings G1–G5) rather than a new violation.  This theorem ties it to
the declarative rule set (`EdgeRule`, `RuleFlow` in `Spec/Flow.lean`, of which `C01.callGraph_edges` shows
every edge of a built graph to be an instance): a value that enters the graph at the origin vertex of label
`o` can be copied, vertex to vertex along rule instances, to the vertex of parameter `p` **iff**
`libCompatB e p o`.  Hence the gaps are exactly `compatB ∧ ¬ RuleFlow`, and `gapClass` names five classes
that cover them.
-/
namespace ArgMapper.C13
open ArgMapper

/-- the vertex at which a value with this label enters the graph: a named value vertex, or a typed output -/
def originVertex (l : Label) : Vtx :=
  if l.name ≠ "" then .value l.name l.ty l.sub else .out l.ty l.sub

/-- **the library's matching relation is `libCompatB`** -/
theorem ruleFlow_iff_lib (e : TypeEnv) (ht : ImplTrans e) (ha : ImplAntisym e) (p o : Label) :
    RuleFlow e (originVertex o) p.vertex ↔ libCompatB e p o = true := by
  obtain ⟨pn, pt, ps⟩ := p
  obtain ⟨on, ot, os⟩ := o
  by_cases hp : pn = "" <;> by_cases ho : on = ""
  · subst hp; subst ho
    simp only [originVertex, Label.vertex, ne_eq, not_true_eq_false, if_false]
    exact (LibCompat.ruleFlow_arg_iff ht ha).trans (LibCompat.lib_arg_out e pt ps ot os)
  · subst hp
    simp only [originVertex, Label.vertex, ne_eq, ho, not_false_eq_true, if_true, not_true_eq_false, if_false]
    exact (LibCompat.ruleFlow_arg_iff ht ha).trans (LibCompat.lib_arg_value e pt ps on ot os ho)
  · subst ho
    simp only [originVertex, Label.vertex, ne_eq, hp, not_false_eq_true, if_true, not_true_eq_false, if_false]
    exact (LibCompat.ruleFlow_value_iff ht ha).trans (LibCompat.lib_value_out e pn pt ps ot os hp)
  · simp only [originVertex, Label.vertex, ne_eq, hp, ho, not_false_eq_true, if_true]
    exact (LibCompat.ruleFlow_value_iff ht ha).trans (LibCompat.lib_value_value e pn pt ps on ot os hp ho)

/-- every table-compatible pair the rules do not realise falls into one of the five recorded classes -/
theorem gaps_classified (e : TypeEnv) (ht : ImplTrans e) (ha : ImplAntisym e) (p o : Label)
    (hc : compatB e p o = true) (hn : ¬ RuleFlow e (originVertex o) p.vertex) :
    gapClass e p o ∈ ["G1_named_value_of_implementing_type_to_named_interface_parameter",
      "G2_named_value_of_implementing_type_to_typed_interface_parameter",
      "G3_named_value_without_subtype_to_typed_parameter_with_subtype",
      "G4_named_value_without_subtype_to_same-named_parameter_with_subtype",
      "G5_typed_value_with_subtype_to_named_parameter_of_that_type"] := by
  rcases LibCompat.gapClass_cases e p o with ⟨_, h | h⟩ | h
  · rw [hc] at h; cases h
  · exact (hn ((ruleFlow_iff_lib e ht ha p o).2 h)).elim
  · exact h

end ArgMapper.C13
