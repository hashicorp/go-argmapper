import ArgMapper.Proofs.TarjanTop
/-!
# C20 (continued) — Tarjan's algorithm as written in `tarjan.go` is exact

Property theorem only.  `stronglyConnected` (ArgMapper/Model/Traverse.lean) is the transcription of
`internal/graph/tarjan.go`: recursive `visit` with an index table (0 = not visited, indices start at 1),
an explicit stack kept top-first, components emitted when `index = lowlink`; the fuel `|verts| + 1` bounds
the recursion depth.  The theorem states that for every well-formed graph — i.e. for every iteration
order of Go's maps — its output is exactly the partition of the vertices into mutual-reachability
classes.  (Until now this was decided per run by the verified checker `isSccPartition_iff` applied to
the outputs of the model and of the real code.)
-/
namespace ArgMapper.C20
open ArgMapper AGraph Traverse
variable {α : Type} [DecidableEq α]

/-- **C20_scc_exact** -/
theorem tarjan_exact (g : AGraph α) (hwf : g.WF) : IsSccPartition g (stronglyConnected g) := by
  obtain ⟨h1, h2, h3, h4⟩ := Tarjan.stronglyConnected_spec hwf
  exact ⟨h1, h2, h3, fun c hc u hu v _ => h4 c hc u hu v⟩

end ArgMapper.C20
