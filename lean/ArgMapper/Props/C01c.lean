import ArgMapper.Model.Hist
import ArgMapper.Props.C01b
import ArgMapper.Proofs.NoFabMemo
import ArgMapper.Proofs.NoFab
import ArgMapper.Proofs.NoFabCE
/-!
# C01 (values, not only labels): nothing is fabricated — over whole histories

`C01.injection_sound` speaks about *labels*: every injected value entered the graph at a supplied
value or at a converter output whose label is compatible with the parameter.  This file is about the
*values themselves* (their provenance ids): every argument any executed function receives, in any
`Call` of a history of `Call`s and `Redefine`s on shared function objects, is a value the caller of
that very call supplied, or a value some execution of the history returned (possibly in an earlier
call and served from a run-once cell).  In particular the zero values of `Redefine`'s planning run
never reach a real function.

`BehFull` is the one assumption about function bodies: a Go function returns one value per declared
result (the model's `BehOut.outs` is a list, which could be too short).

Helper lemmas: `ArgMapper/Proofs/NoFabMemo.lean` (the run-once cells and the log through `callWith`),
`ArgMapper/Proofs/NoFab.lean` (the provenance invariant through `reach`), `ArgMapper/Proofs/NoFabCE.lean`
(counterexamples to the original statements).

**Corrected statements.**  `no_fabrication_call` and `no_fabrication_hist` are false as first stated
(`no_fabrication_call_original_false_set`, `no_fabrication_call_original_false_cell`,
`no_fabrication_hist_original_false`): `outputValues` reads a result through `resultField`, which falls back
to the *zero value* (id 0) when it finds no id for the field, and `BehFull` alone does not exclude that:

* (`hk`) a `FuncDesc` carries arbitrary `ValueSet` records; the lookup maps of a converter's output set may
  hold a value that is not in its value list, and then no id is found whatever the body returned.  Excluded by
  `ValueSet.KeysOK` of the converters' output sets (true of every set `newFunc` builds: `newFunc_keysOK`, and
  of `stdCtx` under `FuncsConsistent`: `stdCtx_keysOK`).
* (`hm`) a run-once cell is read instead of running the body, and `BehFull` says nothing about the cells the
  function objects carry when the call starts — an arbitrary `HistState`, or the state an arbitrary earlier
  history left (its bodies are not assumed to be full, and its function objects need not be the same ones).
  Excluded by `MemoFull`: the cells the converters of this call would read hold one id per output value.
  `hist_memoFull` derives it for a history of calls on shared function objects with full bodies.
-/
namespace ArgMapper.C01
open ArgMapper

/-- the provenance ids of the values the caller of an operation supplied -/
def suppliedIds (cg : CG) : List Nat := cg.store.map (fun p => p.2.id)

/-- every body returns one id per declared output value -/
def BehFull (c : Ctx) (target : FuncDesc) : Prop :=
  (∀ n args, (c.beh target.id n args).outs.length = target.output.values.length) ∧
  ∀ k f, c.funcOf k = some f → ∀ n args, (c.beh f.id n args).outs.length = f.output.values.length

/-- all executions of the calls of a history, in order -/
def histLog (obs : List HistObs) : List ExecEv :=
  obs.flatMap (fun o => match o with | .call _ l => l | .redef _ => [])

/-- (added hypothesis) the run-once cells the converters of the context would read hold (at least) one id
per output value of the converter -/
def MemoFull (c : Ctx) (memo : List (Nat × Memo)) : Prop :=
  ∀ k f, c.funcOf k = some f → f.once = true → ∀ m, mapGet memo f.id = some m →
    f.output.values.length ≤ m.res.outs.length

/-- every memo cell on the function objects holds the result of an execution of the history -/
theorem memo_from_history (fuel : Nat) (ops : List HistOp) :
    ∀ p ∈ (runHist fuel {} ops).1.memo,
      ∃ ev ∈ histLog (runHist fuel {} ops).2, ev.fid = p.1 ∧ ev.res = p.2.res := by
  intro p hp
  rcases NoFabMemo.runHist_src fuel ops p hp with h | ⟨ev, hev, h⟩
  · exact absurd h id
  · exact ⟨ev, hev, h⟩

theorem outsListed_of_keysOK (c : Ctx) (hk : ∀ k f, c.funcOf k = some f → ValueSet.KeysOK f.output) :
    NoFab.OutsListed c :=
  fun k f hf => ⟨fun p hp => ((hk k f hf).1 p hp).1, fun p hp => ((hk k f hf).2 p hp).1⟩

theorem behLen_of_behFull (c : Ctx) (target : FuncDesc) (hb : BehFull c target) : NoFab.BehLen c :=
  fun k f hf n args => Nat.le_of_eq (hb.2 k f hf n args).symm

/-- one call, from any state of the function objects: an argument is a supplied value, an output of an
execution of this call, or an output held in a run-once cell at the start.
(Corrected statement: hypotheses `hk` and `hm` added, see the head of the file and below.) -/
theorem no_fabrication_call (c : Ctx) (cgr : CallGraphResult) (target : FuncDesc) (fuel : Nat) (h : HistState)
    (orc : List OrcItem) (hb : BehFull c target)
    (hk : ∀ k f, c.funcOf k = some f → ValueSet.KeysOK f.output) (hm : MemoFull c h.memo) :
    ∀ ev ∈ (histCall c cgr target fuel h orc).2.log, ∀ a ∈ ev.args,
      a.id ∈ suppliedIds cgr.cg ∨ (∃ p ∈ h.memo, a.id ∈ p.2.res.outs) ∨
      ∃ ev' ∈ (histCall c cgr target fuel h orc).2.log, a.id ∈ ev'.res.outs :=
  NoFab.histCall_no_fab (behLen_of_behFull c target hb) (outsListed_of_keysOK c hk) cgr target fuel h orc hm

/- ORIGINAL STATEMENT of `no_fabrication_call` — FALSE (corrected above; it had neither `hk` nor `hm`):

    theorem no_fabrication_call (c : Ctx) (cgr : CallGraphResult) (target : FuncDesc) (fuel : Nat) (h : HistState)
        (orc : List OrcItem) (hb : BehFull c target) :
        ∀ ev ∈ (histCall c cgr target fuel h orc).2.log, ∀ a ∈ ev.args,
          a.id ∈ suppliedIds cgr.cg ∨ (∃ p ∈ h.memo, a.id ∈ p.2.res.outs) ∨
          ∃ ev' ∈ (histCall c cgr target fuel h orc).2.log, a.id ∈ ev'.res.outs
-/

theorem behFull_ce (f : FuncDesc) (hf : f.id = 1 ∧ f.output.values.length = 1) :
    BehFull (NoFabCE.ctx f NoFabCE.behFull) NoFabCE.tgt := by
  refine ⟨fun _ _ => rfl, ?_⟩
  intro k g hg n args
  rcases NoFabCE.funcOf_mem f g _ k hg with rfl | rfl
  · rfl
  · rw [hf.2]
    show (NoFabCE.behFull g.id n args).outs.length = 1
    rw [hf.1]; rfl

/-- the original `no_fabrication_call` is false (needs `hk`): a converter whose typed output map holds a value
that is not in its value list; fresh function objects, full bodies — the target receives id 0 -/
theorem no_fabrication_call_original_false_set :
    ∃ (c : Ctx) (cgr : CallGraphResult) (target : FuncDesc) (fuel : Nat) (h : HistState) (orc : List OrcItem),
      BehFull c target ∧ MemoFull c h.memo ∧
      ¬ ∀ ev ∈ (histCall c cgr target fuel h orc).2.log, ∀ a ∈ ev.args,
        a.id ∈ suppliedIds cgr.cg ∨ (∃ p ∈ h.memo, a.id ∈ p.2.res.outs) ∨
        ∃ ev' ∈ (histCall c cgr target fuel h orc).2.log, a.id ∈ ev'.res.outs :=
  ⟨NoFabCE.ctx NoFabCE.convBad NoFabCE.behFull, NoFabCE.cgr NoFabCE.convBad, NoFabCE.tgt, 5, {}, NoFabCE.orc,
    behFull_ce _ ⟨rfl, rfl⟩, (fun _ _ _ _ m hm => by cases hm), NoFabCE.bad_set_fabricates⟩

theorem keysOK_ce (once : Bool) (k : Nat) (f : FuncDesc)
    (hf : (NoFabCE.ctx (NoFabCE.conv once) NoFabCE.behFull).funcOf k = some f) : ValueSet.KeysOK f.output := by
  rcases NoFabCE.funcOf_mem _ f _ k hf with rfl | rfl
  · unfold ValueSet.KeysOK; decide
  · cases once <;> (unfold ValueSet.KeysOK; decide)

/-- the original `no_fabrication_call` is false (needs `hm`): well-formed value sets, full bodies, and a
run-once cell that holds a result without ids — the target receives id 0 -/
theorem no_fabrication_call_original_false_cell :
    ∃ (c : Ctx) (cgr : CallGraphResult) (target : FuncDesc) (fuel : Nat) (h : HistState) (orc : List OrcItem),
      BehFull c target ∧ (∀ k f, c.funcOf k = some f → ValueSet.KeysOK f.output) ∧
      ¬ ∀ ev ∈ (histCall c cgr target fuel h orc).2.log, ∀ a ∈ ev.args,
        a.id ∈ suppliedIds cgr.cg ∨ (∃ p ∈ h.memo, a.id ∈ p.2.res.outs) ∨
        ∃ ev' ∈ (histCall c cgr target fuel h orc).2.log, a.id ∈ ev'.res.outs :=
  ⟨NoFabCE.ctx (NoFabCE.conv true) NoFabCE.behFull, NoFabCE.cgr (NoFabCE.conv true), NoFabCE.tgt, 5,
    NoFabCE.hShort, NoFabCE.orc, behFull_ce _ ⟨rfl, rfl⟩, keysOK_ce true, NoFabCE.short_cell_fabricates⟩

/-- **C01 over histories**: after any history `pre` (calls and Redefines, from fresh function objects),
every argument of every execution of a further call was supplied to that call or returned by an
execution of the history (this call included).
(Corrected statement: hypotheses `hk` and `hm` added; `hist_memoFull` discharges `hm` for histories on
shared function objects whose bodies are full.) -/
theorem no_fabrication_hist (fuel : Nat) (pre : List HistOp) (c : Ctx) (cgr : CallGraphResult) (target : FuncDesc)
    (orc : List OrcItem) (hb : BehFull c target)
    (hk : ∀ k f, c.funcOf k = some f → ValueSet.KeysOK f.output)
    (hm : MemoFull c (runHist fuel {} pre).1.memo) :
    ∀ ev ∈ (histCall c cgr target fuel (runHist fuel {} pre).1 orc).2.log, ∀ a ∈ ev.args,
      a.id ∈ suppliedIds cgr.cg ∨
      ∃ ev' ∈ histLog (runHist fuel {} pre).2 ++ (histCall c cgr target fuel (runHist fuel {} pre).1 orc).2.log,
        a.id ∈ ev'.res.outs := by
  intro ev hev a ha
  rcases no_fabrication_call c cgr target fuel _ orc hb hk hm ev hev a ha with h | ⟨p, hp, h⟩ | ⟨ev', hev', h⟩
  · exact .inl h
  · obtain ⟨ev', hev', _, hres⟩ := memo_from_history fuel pre p hp
    exact .inr ⟨ev', List.mem_append_left _ hev', by rw [hres]; exact h⟩
  · exact .inr ⟨ev', List.mem_append_right _ hev', h⟩

/- ORIGINAL STATEMENT of `no_fabrication_hist` — FALSE (corrected above; it had neither `hk` nor `hm`):

    theorem no_fabrication_hist (fuel : Nat) (pre : List HistOp) (c : Ctx) (cgr : CallGraphResult) (target : FuncDesc)
        (orc : List OrcItem) (hb : BehFull c target) :
        ∀ ev ∈ (histCall c cgr target fuel (runHist fuel {} pre).1 orc).2.log, ∀ a ∈ ev.args,
          a.id ∈ suppliedIds cgr.cg ∨
          ∃ ev' ∈ histLog (runHist fuel {} pre).2 ++ (histCall c cgr target fuel (runHist fuel {} pre).1 orc).2.log,
            a.id ∈ ev'.res.outs
-/

/-- the original `no_fabrication_hist` is false (needs `hm`; `hk` as for the single call): an earlier call of the
history ran the run-once converter with a body that returned no id; the later call (well-formed value
sets, full bodies) serves the target the zero value -/
theorem no_fabrication_hist_original_false :
    ∃ (fuel : Nat) (pre : List HistOp) (c : Ctx) (cgr : CallGraphResult) (target : FuncDesc) (orc : List OrcItem),
      BehFull c target ∧ (∀ k f, c.funcOf k = some f → ValueSet.KeysOK f.output) ∧
      ¬ ∀ ev ∈ (histCall c cgr target fuel (runHist fuel {} pre).1 orc).2.log, ∀ a ∈ ev.args,
        a.id ∈ suppliedIds cgr.cg ∨
        ∃ ev' ∈ histLog (runHist fuel {} pre).2 ++ (histCall c cgr target fuel (runHist fuel {} pre).1 orc).2.log,
          a.id ∈ ev'.res.outs :=
  ⟨5, NoFabCE.pre, NoFabCE.ctx (NoFabCE.conv true) NoFabCE.behFull, NoFabCE.cgr (NoFabCE.conv true), NoFabCE.tgt,
    NoFabCE.orc, behFull_ce _ ⟨rfl, rfl⟩, keysOK_ce true, NoFabCE.short_history_fabricates⟩

/-! ### discharging the added hypotheses -/

/-- `hk` holds in the context `Call` runs in when the function objects are consistent (`newFunc_keysOK`:
they are when their value sets are built by the model of `NewFunc`) -/
theorem stdCtx_keysOK (e : TypeEnv) (b : Builder) (funcs : Nat → Option FuncDesc) (target : FuncDesc)
    (beh : Nat → Nat → List PVal → BehOut) (hc : FuncsConsistent (allFuncs b funcs target)) :
    ∀ k f, (stdCtx e b funcs target beh).funcOf k = some f → ValueSet.KeysOK f.output :=
  fun k f hf =>
    have hf' : (allFuncs b funcs target).find? (fun g => g.key == k) = some f := hf
    (hc.2 f (List.mem_of_find?_eq_some hf')).2

/-- the operation runs on the shared function objects: `objs id` is the number of output values of the
object `id` -/
def SharedObjs (objs : Nat → Nat) (c : Ctx) (target : FuncDesc) : Prop :=
  target.output.values.length = objs target.id ∧
  ∀ k f, c.funcOf k = some f → f.output.values.length = objs f.id

/-- every call of the history runs full bodies on the shared function objects -/
def HistShared (objs : Nat → Nat) (ops : List HistOp) : Prop :=
  ∀ op ∈ ops, match op with
    | .call c _ t _ => BehFull c t ∧ SharedObjs objs c t
    | .redefine .. => True

/-- `hm` holds after every history of calls with full bodies on shared function objects -/
theorem hist_memoFull (objs : Nat → Nat) (fuel : Nat) (pre : List HistOp) (c : Ctx) (target : FuncDesc)
    (hpre : HistShared objs pre) (hs : SharedObjs objs c target) :
    MemoFull c (runHist fuel {} pre).1.memo := by
  have hops : NoFabMemo.OpsLen objs pre := by
    intro op hop
    have := hpre op hop
    cases op with
    | call c' cgr' t' orc' =>
      obtain ⟨hb, hs'⟩ := this
      rintro f (rfl | ⟨k, hk⟩) n args
      · rw [hb.1, hs'.1]
      · rw [hb.2 k f hk, hs'.2 k f hk]
    | redefine => trivial
  have hlen := NoFabMemo.runHist_lenOK objs fuel pre hops
  intro k f hf _ m hm
  have := hlen _ (mem_of_mapGet hm)
  rw [this, hs.2 k f hf]
  exact Nat.le_refl _

/-- **C01 over histories, on shared function objects**: both added hypotheses discharged by what the
scenario is — every operation runs full bodies on the same function objects -/
theorem no_fabrication_hist_shared (objs : Nat → Nat) (fuel : Nat) (pre : List HistOp) (c : Ctx)
    (cgr : CallGraphResult) (target : FuncDesc) (orc : List OrcItem) (hb : BehFull c target)
    (hk : ∀ k f, c.funcOf k = some f → ValueSet.KeysOK f.output)
    (hpre : HistShared objs pre) (hs : SharedObjs objs c target) :
    ∀ ev ∈ (histCall c cgr target fuel (runHist fuel {} pre).1 orc).2.log, ∀ a ∈ ev.args,
      a.id ∈ suppliedIds cgr.cg ∨
      ∃ ev' ∈ histLog (runHist fuel {} pre).2 ++ (histCall c cgr target fuel (runHist fuel {} pre).1 orc).2.log,
        a.id ∈ ev'.res.outs :=
  no_fabrication_hist fuel pre c cgr target orc hb hk (hist_memoFull objs fuel pre c target hpre hs)

/-- non-vacuity: the hypotheses of `no_fabrication_call` hold in a concrete context (run-once converter
`func(A) C`, target `func(C)`, `Typed(A)` with id 10, fresh function objects), and the call runs both bodies:
the converter receives the supplied id, the target the id the converter returned -/
example :
    BehFull (NoFabCE.ctx (NoFabCE.conv true) NoFabCE.behFull) NoFabCE.tgt ∧
    (∀ k f, (NoFabCE.ctx (NoFabCE.conv true) NoFabCE.behFull).funcOf k = some f → ValueSet.KeysOK f.output) ∧
    MemoFull (NoFabCE.ctx (NoFabCE.conv true) NoFabCE.behFull) ({} : HistState).memo ∧
    suppliedIds (NoFabCE.cgr (NoFabCE.conv true)).cg = [10] ∧
    (histCall (NoFabCE.ctx (NoFabCE.conv true) NoFabCE.behFull) (NoFabCE.cgr (NoFabCE.conv true)) NoFabCE.tgt 5
      {} NoFabCE.orc).2.log.map (fun ev => ev.args.map (·.id)) = [[10], [7]] :=
  ⟨behFull_ce _ ⟨rfl, rfl⟩, keysOK_ce true, (fun _ _ _ _ m hm => by cases hm), NoFabCE.supplied.1, NoFabCE.good_log⟩

end ArgMapper.C01
