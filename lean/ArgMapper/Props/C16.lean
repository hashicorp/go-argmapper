import ArgMapper.Model.Args
import ArgMapper.Proofs.Args
/-!
# C16 — options: case-insensitive names, last wins, call overrides default, nil-safe
Property theorems only (helper lemmas in `ArgMapper/Proofs/Args.lean`).
-/
namespace ArgMapper.C16
open ArgMapper

/-- the key of the four option maps -/
inductive Key
  | named (n : String)
  | namedSub (n st : String)
  | typed (t : Nat)
  | typedSub (t : Nat) (st : String)
deriving DecidableEq, Repr

def Builder.get (b : Builder) : Key → Option Val
  | .named n => mapGet b.named n
  | .namedSub n st => mapGet b.namedSub (n, st)
  | .typed t => mapGet b.typed t
  | .typedSub t st => mapGet b.typedSub (t, st)

/-- what a value writes, after the `""`-name / `""`-subtype redirections of `args.go` -/
def keyOf (n st : String) (v : Val) : Key :=
  if n = "" then (if st = "" then .typed v.ty else .typedSub v.ty st)
  else if st = "" then .named (lower n) else .namedSub (lower n) st

/-- the writes an option performs, in order (nil values write nothing) -/
def writes : Opt → List (Key × Val)
  | .named n (some v) => [(keyOf n "" v, v)]
  | .namedSub n (some v) st => [(keyOf n st v, v)]
  | .typed vs => vs.filterMap (fun o => o.map (fun v => (Key.typed v.ty, v)))
  | .typedSub (some v) st => [(keyOf "" st v, v)]
  | _ => []

/-- the last write to `k` in a list of writes -/
def lastWrite (ws : List (Key × Val)) (k : Key) : Option Val :=
  (ws.reverse.find? (fun w => decide (w.1 = k))).map (·.2)

/-! ### what one option does to `Builder.get` (these mention `Key`, so they live here; everything
generic is in `ArgMapper/Proofs/Args.lean`) -/

private theorem match_eq_or (x y : Option Val) :
    (match x with | some v => some v | none => y) = x.or y := by
  cases x <;> rfl

private theorem get_empty (k : Key) : Builder.get Builder.empty k = none := by
  cases k <;> rfl

/-- `Builder.get` reads the four maps and nothing else -/
private theorem Builder.get_congr {b b' : Builder} (hn : b'.named = b.named)
    (hns : b'.namedSub = b.namedSub) (ht : b'.typed = b.typed) (hts : b'.typedSub = b.typedSub)
    (k : Key) : Builder.get b' k = Builder.get b k := by
  cases k <;> simp only [Builder.get, hn, hns, ht, hts]

/-! a write to one of the maps: the key of that map now holds the value, every other key (of this
map by `mapGet_mapSet`, of the other three by the constructor) holds what it held -/

private theorem get_named (b : Builder) (n : String) (x : Val) (k : Key) :
    Builder.get { b with named := mapSet b.named n x } k =
      if k = .named n then some x else Builder.get b k := by
  cases k with
  | named n' => simp only [Builder.get, mapGet_mapSet, Key.named.injEq]
  | _ => exact (if_neg nofun).symm

private theorem get_namedSub (b : Builder) (n st : String) (x : Val) (k : Key) :
    Builder.get { b with namedSub := mapSet b.namedSub (n, st) x } k =
      if k = .namedSub n st then some x else Builder.get b k := by
  cases k with
  | namedSub n' st' => simp only [Builder.get, mapGet_mapSet, Key.namedSub.injEq, Prod.mk.injEq]
  | _ => exact (if_neg nofun).symm

private theorem get_typed (b : Builder) (x : Val) (k : Key) :
    Builder.get { b with typed := mapSet b.typed x.ty x } k =
      if k = .typed x.ty then some x else Builder.get b k := by
  cases k with
  | typed t => simp only [Builder.get, mapGet_mapSet, Key.typed.injEq]
  | _ => exact (if_neg nofun).symm

private theorem get_typedSub (b : Builder) (st : String) (x : Val) (k : Key) :
    Builder.get { b with typedSub := mapSet b.typedSub (x.ty, st) x } k =
      if k = .typedSub x.ty st then some x else Builder.get b k := by
  cases k with
  | typedSub t st' => simp only [Builder.get, mapGet_mapSet, Key.typedSub.injEq, Prod.mk.injEq]
  | _ => exact (if_neg nofun).symm

/-- one value written through the `""`-name / `""`-subtype redirections lands on `keyOf` -/
private theorem get_setNamedSub (b : Builder) (n st : String) (x : Val) (k : Key) :
    Builder.get (setNamedSub b n (some x) st) k =
      (lastW [(keyOf n st x, x)] k).or (Builder.get b k) := by
  rw [lastW_singleton_or]
  unfold keyOf
  by_cases hn : n = ""
  · subst hn
    rw [setNamedSub_empty_name, if_pos rfl]
    by_cases hs : st = ""
    · subst hs; rw [setTypedSub_empty, if_pos rfl]; exact get_typed b x k
    · unfold setTypedSub; rw [if_neg hs, if_neg hs]; exact get_typedSub b st x k
  · rw [if_neg hn]
    by_cases hs : st = ""
    · subst hs; rw [setNamedSub_empty_sub, if_pos rfl]; unfold setNamed; rw [if_neg hn]
      exact get_named b (lower n) x k
    · unfold setNamedSub; rw [if_neg hn, if_neg hs, if_neg hs]; exact get_namedSub b (lower n) st x k

private theorem get_setTyped (b : Builder) (o : Option Val) (k : Key) :
    Builder.get (setTyped b o) k =
      (lastW (o.map (fun v => (Key.typed v.ty, v))).toList k).or (Builder.get b k) := by
  cases o with
  | none => rfl
  | some x => exact (get_typed b x k).trans (lastW_singleton_or _ k x _).symm

private theorem get_addConvs (k : Key) : ∀ (fs : List (Option Nat)) (b : Builder),
    Builder.get (addConvs b fs) k = Builder.get b k
  | [], _ => rfl
  | none :: _, _ => Builder.get_congr rfl rfl rfl rfl k
  | some _ :: fs, _ => (get_addConvs k fs _).trans (Builder.get_congr rfl rfl rfl rfl k)

private theorem get_applyOpt (b : Builder) (o : Opt) (k : Key) :
    Builder.get (applyOpt b o) k = (lastW (writes o) k).or (Builder.get b k) := by
  cases o with
  | named n v =>
    show Builder.get (setNamed b n v) k = _
    rw [← setNamedSub_empty_sub]
    cases v with
    | none => rw [setNamedSub_none]; rfl
    | some x => exact get_setNamedSub b n "" x k
  | namedSub n v st =>
    cases v with
    | none => show Builder.get (setNamedSub b n none st) k = _; rw [setNamedSub_none]; rfl
    | some x => exact get_setNamedSub b n st x k
  | typedSub v st =>
    show Builder.get (setTypedSub b v st) k = _
    rw [← setNamedSub_empty_name]
    cases v with
    | none => rw [setNamedSub_none]; rfl
    | some x => exact get_setNamedSub b "" st x k
  | typed vs =>
    show Builder.get (vs.foldl setTyped b) k = (lastW (vs.filterMap _) k).or _
    rw [← flatMap_toList]
    exact get_foldl_lastW Builder.get setTyped _ get_setTyped vs b k
  | conv fs => exact get_addConvs k fs b
  | convFunc _ | gen _ | filterIn _ | filterOut _ | funcOnce => exact Builder.get_congr rfl rfl rfl rfl k
  | other | nilOpt => rfl

private theorem get_foldl (b : Builder) (opts : List Opt) (k : Key) :
    Builder.get (opts.foldl applyOpt b) k = (lastW (opts.flatMap writes) k).or (Builder.get b k) :=
  get_foldl_lastW Builder.get applyOpt writes get_applyOpt opts b k

/-- **C16_last_wins** — after applying any option list to any builder, each key holds the value of
the last option that wrote it, and keys nobody wrote keep what the builder had. -/
theorem last_wins (b : Builder) (opts : List Opt) (k : Key) :
    Builder.get (opts.foldl applyOpt b) k =
      match lastWrite (opts.flatMap writes) k with
      | some v => some v
      | none => Builder.get b k := by
  rw [match_eq_or]; exact get_foldl b opts k

/-- `build` is that fold unless a nil option is present -/
theorem build_ok (opts : List Opt) (hn : Opt.nilOpt ∉ opts) :
    build opts = (if (opts.foldl applyOpt Builder.empty).errs = 0
      then .ok (opts.foldl applyOpt Builder.empty) else .optErr (opts.foldl applyOpt Builder.empty)) := by
  exact buildFrom_of_not_mem opts hn Builder.empty

/-- **C16_nil** — a nil option yields the dedicated error (no builder); nil values write nothing. -/
theorem nil_option (defaults opts : List Opt) (h : Opt.nilOpt ∈ defaults ++ opts) :
    buildFor defaults opts = .nilArg := by
  exact buildFrom_of_mem _ h Builder.empty

theorem nil_value_ignored (b : Builder) (n st : String) :
    applyOpt b (.named n none) = b ∧ applyOpt b (.namedSub n none st) = b ∧
    applyOpt b (.typedSub none st) = b ∧ applyOpt b (.typed [none]) = b := by
  exact ⟨setNamed_none b n, setNamedSub_none b n st, setTypedSub_none b st, rfl⟩

/-- **C16_case** — names are matched through `lower`: any two spellings with the same lower-casing
are the same option. -/
theorem case_insensitive (b : Builder) (n n' : String) (v : Option Val) (st : String)
    (h : lower n = lower n') :
    applyOpt b (.named n v) = applyOpt b (.named n' v) ∧
    applyOpt b (.namedSub n v st) = applyOpt b (.namedSub n' v st) := by
  exact ⟨(setNamedSub_empty_sub b n v).symm.trans
      ((setNamedSub_lower_congr b h v "").trans (setNamedSub_empty_sub b n' v)),
    setNamedSub_lower_congr b h v st⟩

theorem lower_idem (s : String) : lower (lower s) = lower s := by
  exact lower_lower s

/-- **C16_call_overrides_default** — a key written at `Call` holds the call's value; a key written
only by a default keeps the default. -/
theorem call_overrides_default (defaults opts : List Opt) (k : Key) :
    Builder.get ((defaults ++ opts).foldl applyOpt Builder.empty) k =
      match lastWrite (opts.flatMap writes) k with
      | some v => some v
      | none => lastWrite (defaults.flatMap writes) k := by
  rw [match_eq_or, List.foldl_append, get_foldl, get_foldl, get_empty]
  rw [Option.or_none]; rfl

/-- **C16_permutation** — permuting options that write pairwise distinct keys leaves all four maps
unchanged (as finite maps). -/
theorem permutation (opts opts' : List Opt) (hp : opts.Perm opts')
    (hd : ((opts.flatMap writes).map (·.1)).Nodup) (k : Key) :
    Builder.get (opts.foldl applyOpt Builder.empty) k = Builder.get (opts'.foldl applyOpt Builder.empty) k := by
  rw [get_foldl, get_foldl]
  rw [lastW_perm (hp.flatMap_right writes) hd k]

/-- non-vacuity -/
example : Builder.get ([Opt.named "Port" (some ⟨0, 1⟩), .typed [some ⟨1, 2⟩], .named "PORT" (some ⟨0, 3⟩)].foldl
    applyOpt Builder.empty) (.named "port") = some ⟨0, 3⟩ := by
  rw [get_foldl, get_empty, Option.or_none]
  decide +kernel

end ArgMapper.C16
