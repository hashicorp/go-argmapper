import ArgMapper.Props.C05
import ArgMapper.Proofs.CompleteAcyclicStatic
/-!
# C05 (continued) — clause (b): acyclic converter sets in which every converter can be satisfied

Property theorem only (helper lemmas in `ArgMapper/Proofs/CompleteAcyclic.lean` — the walk invariants
for converters with any number of inputs, the nested searches by induction on the fuel — and
`ArgMapper/Proofs/CompleteAcyclicStatic.lean` — the shape of the graph).  Subtype-free fragment as in `complete_single`, but converters may take any
number of inputs.  Premise of clause (b), stated on the pruned call graph: it has no cycle, and every
converter that survived pruning has all its own requirement vertices in the graph.  For **every
oracle** (requirement order, root-first real paths), every behaviour and enough fuel the call ends in
success or in the error a function body reported.
-/
namespace ArgMapper.C05
open ArgMapper

/-- the graph is a DAG: some rank strictly decreases along every edge (dependent → requirement) -/
def Acyclic (g : AGraph Vtx) : Prop := ∃ rank : Vtx → Nat, ∀ x y, g.hasEdge x y = true → rank y < rank x

/-- every converter whose vertex survived pruning has all its requirement vertices in the graph
("each of them can itself be satisfied") -/
def AllConvSat (g : AGraph Vtx) (fs : List FuncDesc) : Prop :=
  ∀ f ∈ fs, Vtx.func f.key ∈ g.verts → ∀ v ∈ f.input.values, v.lab.vertex ∈ g.verts

/-- **C05_complete_acyclic (subtype-free)** -/
theorem complete_acyclic (e : TypeEnv) (ht : ImplTrans e)
    (b : Builder) (funcs : Nat → Option FuncDesc) (target : FuncDesc)
    (hc : C01.FuncsConsistent (C01.allFuncs b funcs target))
    (hsf : SubtypeFree b (C01.allFuncs b funcs target))
    (hwf : SetsWF (b.convs.filterMap funcs))
    (htk : TypedKeysOK b)
    (hkey : ∀ f ∈ b.convs.filterMap funcs, f.key ≠ target.key)
    (hsat : (callGraph {} e b funcs target false none).unsat = [])
    (hacyc : Acyclic (callGraph {} e b funcs target false none).cg.g)
    (hall : AllConvSat (callGraph {} e b funcs target false none).cg.g (b.convs.filterMap funcs))
    (beh : Nat → Nat → List PVal → BehOut) (fuel : Nat)
    (hfuel : (C06.funcVerts (callGraph {} e b funcs target false none).cg.g).length + 1 ≤ fuel)
    (memo : List (Nat × Memo)) (orc : List OrcItem) :
    let r := callWith (C01.stdCtx e b funcs target beh) (callGraph {} e b funcs target false none) target fuel
              (initSt (callGraph {} e b funcs target false none).cg memo orc)
    (∃ res, r.1 = .ok res) ∨ (∃ ε, r.1 = .convErr ε) ∨ (∃ ε res, r.1 = .targetErr ε res) ∨ (∃ w, r.1 = .badOracle w) := by
  intro r
  have _ := hkey  -- not needed: nothing distinguishes the target's vertex in the proof
  obtain ⟨rank, hrank⟩ := hacyc
  have S : Complete.StdHyps b funcs target := .of_noTypedSub hc hwf htk hsf.2.1
  rcases CompleteAcyclic.complete_core S ht hsat rank hrank hall beh False (fun h => h.elim) fuel hfuel memo
    (fun h => h.elim) orc with h | ⟨h, _⟩ | ⟨h, _⟩ | h
  · exact Or.inl h
  · exact Or.inr (Or.inl h)
  · exact Or.inr (Or.inr (Or.inl h))
  · exact Or.inr (Or.inr (Or.inr h))

end ArgMapper.C05
