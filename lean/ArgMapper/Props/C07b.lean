import ArgMapper.Props.C07a
import ArgMapper.Proofs.AffinityCG2
/-! C07, call-graph level (see Props/C07a.lean for the overview); the lemmas on the searched graph are
in `ArgMapper/Proofs/AffinityCG*.lean` -/
namespace ArgMapper.C07
open ArgMapper AGraph Generated Dijkstra DijkstraProofs AffinityProofs AffinityCG

/-! ### call-graph level -/

/-- premise of family A on a (pruned) call graph, requirement direction: the converter's type-only
input `a` can be provided only by named values that depend on the root alone, exactly one of which
(`ustar`) carries the parameter's name `n`.  Decidable; the driver evaluates it on real graphs. -/
def famA (g : AGraph Vtx) (n : String) (a ustar : Vtx) : Bool :=
  decide (Vtx.root ∈ g.verts) && a.isArg && ustar.isValue && decide (ustar.name = n) &&
  g.hasEdge a ustar &&
  (g.outsW a).all (fun p =>
    p.1.isValue && decide (1 ≤ p.2) && decide (p.2 ≤ 1000) &&
    decide (g.outsW p.1 = [(Vtx.root, weightNormal)]) &&
    (decide (p.1 = ustar) || decide (p.1.name ≠ n)))

/-- **Family A, call-graph level.**  For a named requirement `cur` with name `n`: whenever the path
chosen by the real algorithm (any legal pop order) runs through the converter's type-only input `a`,
it enters it from the root through the same-named supplied value. -/
theorem affinity_path (g : AGraph Vtx) (hwf : g.WF) (n : String) (S : Nat) (sc : String) (a ustar : Vtx)
    (pops : List Vtx)
    (hfam : famA g n a ustar = true)
    (hleg : legalChoice g (.value n S sc) pops = true)
    (hmem : a ∈ choosePath g (.value n S sc) pops) :
    ∃ rest, choosePath g (.value n S sc) pops = Vtx.root :: ustar :: a :: rest := by
  simp only [famA, Bool.and_eq_true, Bool.or_eq_true, decide_eq_true_eq, List.all_eq_true] at hfam
  obtain ⟨⟨⟨⟨⟨hroot, ha⟩, hus⟩, hun⟩, he⟩, hall⟩ := hfam
  have hL := legalPops_of_legalChoice hleg
  have haV := not_value_of_isArg ha
  -- every feeder of `a` in the searched graph is a requirement of `a` in `g`
  have hin : ∀ u w, (G g (.value n S sc)).weight u a = some w → ∃ w0, (u, w0) ∈ g.outsW a := by
    intro u w h
    obtain ⟨w0, hw0⟩ := hasEdge_iff_weight.1 (G_edge g hwf n S sc h)
    exact ⟨w0, weight_some_mem_outsW hw0⟩
  obtain ⟨h1, h2, h3⟩ := feeder_pred (G g (.value n S sc)) (G_WF g hwf _) Vtx.root a ustar
    weightNormal weightMatchingName pops hL
    (by rw [G_verts]; exact hroot)
    (fun e => by rw [e] at ha; cases ha)
    (G_weight_named g hwf n S sc hus hun he)
    (by
      intro u w h
      obtain ⟨w0, hm⟩ := hin u w h
      obtain ⟨⟨⟨⟨hv, _⟩, _⟩, ho⟩, _⟩ := hall (u, w0) hm
      simp only at hv ho
      obtain ⟨hwr, honly⟩ := only_plain g hwf n S sc ho (fun h => by cases h.1)
      exact ⟨fun e => (by rw [e] at hv; cases hv), fun e => (by rw [e, haV] at hv; cases hv), hwr, honly⟩)
    (by
      intro u w h hne
      obtain ⟨w0, hm⟩ := hin u w h
      have hname : u.name ≠ n := (hall (u, w0) hm).2.resolve_left hne
      rw [G_weight_plain g hwf n S sc (fun hc => hname hc.2)] at h
      obtain ⟨⟨⟨⟨_, hb1⟩, hb2⟩, _⟩, _⟩ := hall (u, w) (weight_some_mem_outsW h)
      simp only at hb1 hb2
      exact ⟨hb1, Int.lt_of_lt_of_le (by decide) hb1, by unfold Small; omega⟩)
    ⟨by decide, small_consts.1⟩ small_consts.2.2
  obtain ⟨hc1, _, hc3⟩ := choosePath_chain g (.value n S sc) pops hL.2.1
  obtain ⟨l, rest, hp⟩ := List.append_of_mem hmem
  exact ⟨rest, pchain_three hp hc1 hc3 h1 h2 h3⟩

/-- premise of family B: `u` is a supplied named value (depends on the root alone); the type-only
converter `f1` requires only `a`, which only `u` provides; the name-using converter `f2` requires only
`u`; `o` (a typed output, or the parameter vertex) is provided by `f1` and `f2` only.

CORRECTED: the conjunct `decide (o ≠ Vtx.root)` was added.  The premise as first stated,
```
def famB (g : AGraph Vtx) (n : String) (u a o : Vtx) (k1 k2 : Nat) : Bool :=
  decide (Vtx.root ∈ g.verts) && u.isValue && decide (u.name = n) && a.isArg && !o.isValue &&
  decide (g.outsW u = [(Vtx.root, weightNormal)]) && … (the rest as below)
```
allows `o = root` (a graph in which the root itself requires both converters); the root is popped
first, never gets a predecessor and heads every path, so `named_converter_path` is false there.
Checked counterexample: `AffinityCGCE.hyps`, `AffinityCGCE.concl_fails`
(`ArgMapper/Proofs/AffinityCGCE.lean`).  Every other distinctness fact the proof needs follows from
the premise. -/
def famB (g : AGraph Vtx) (n : String) (u a o : Vtx) (k1 k2 : Nat) : Bool :=
  decide (Vtx.root ∈ g.verts) && u.isValue && decide (u.name = n) && a.isArg && !o.isValue &&
  decide (o ≠ Vtx.root) &&
  decide (g.outsW u = [(Vtx.root, weightNormal)]) &&
  decide (g.outsW a = [(u, weightTyped)]) &&
  decide (g.outsW (.func k1) = [(a, weightTyped)]) &&
  decide (g.outsW (.func k2) = [(u, weightNormal)]) &&
  decide (k1 ≠ k2) &&
  ((g.outsW o).all (fun p => decide (p.2 = weightTyped) && (decide (p.1 = .func k1) || decide (p.1 = .func k2)))) &&
  g.hasEdge o (.func k1) && g.hasEdge o (.func k2)

/-- **Family B, call-graph level** (both converters have a typed output): whenever the chosen path
runs through `o`, it reaches it through the name-using converter `f2`, never through `f1`. -/
theorem named_converter_path (g : AGraph Vtx) (hwf : g.WF) (n : String) (S : Nat) (sc : String) (u a o : Vtx)
    (k1 k2 : Nat) (pops : List Vtx)
    (hfam : famB g n u a o k1 k2 = true)
    (hleg : legalChoice g (.value n S sc) pops = true)
    (hmem : o ∈ choosePath g (.value n S sc) pops) :
    ∃ rest, choosePath g (.value n S sc) pops = Vtx.root :: u :: .func k2 :: o :: rest := by
  simp only [famB, Bool.and_eq_true, Bool.or_eq_true, Bool.not_eq_true', decide_eq_true_eq,
    List.all_eq_true] at hfam
  obtain ⟨⟨⟨⟨⟨⟨⟨⟨⟨⟨⟨⟨⟨hroot, hu⟩, hun⟩, ha⟩, hoV⟩, hor⟩, hou⟩, hoa⟩, hof1⟩, hof2⟩, _⟩, hoo⟩, he1⟩, he2⟩ := hfam
  have hL := legalPops_of_legalChoice hleg
  have hr : Vtx.root ∈ (G g (.value n S sc)).verts := by rw [G_verts]; exact hroot
  obtain ⟨tU, tF1, tF2⟩ := branch_common g hwf n S sc u a k1 k2 hu hun ha hou hoa hof1 hof2
  -- `o` is not the name-using converter, which requires `u` alone
  have ho2 : o ≠ .func k2 := by
    intro e; subst e
    have := (outsW_single hwf hof2).2 _ he1
    rw [← this] at hu; cases hu
  -- the edges into `o`
  have hwo : ∀ k, g.hasEdge o (.func k) = true →
      (G g (.value n S sc)).weight (.func k) o = some weightTyped := by
    intro k hk'
    rw [G_weight_plain g hwf n S sc (fun h => by cases h.1)]
    obtain ⟨w, hw⟩ := hasEdge_iff_weight.1 hk'
    have := (hoo (_, w) (weight_some_mem_outsW hw)).1
    simp only at this
    rw [hw, this]
  obtain ⟨hpr, hpt⟩ := tied_pred (G_WF g hwf _) hr hL
  have h1 := merge_pred (G_WF g hwf _) hr hL tF2 (hwo k2 he2) small_consts.2.1 hor ho2 (by
      intro y w hw hne
      obtain ⟨w', hw'⟩ := hasEdge_iff_weight.1 (G_edge g hwf n S sc hw)
      rcases (hoo (y, w') (weight_some_mem_outsW hw')).2 with rfl | rfl
      · cases (hwo k1 he1).symm.trans hw
        exact ⟨_, _, tF1, by simp, small_consts.2.1, by decide, by decide⟩
      · exact absurd rfl hne)
  obtain ⟨hc1, _, hc3⟩ := choosePath_chain g (.value n S sc) pops hL.2.1
  obtain ⟨l, rest, hp⟩ := List.append_of_mem hmem
  exact ⟨rest, pchain_four hp hc1 hc3 h1 (hpt tF2).1 (hpt tU).1 hpr⟩

/-- premise of family B when the name-using converter has a *named* output: it provides the parameter
vertex `cur` directly, the type-only converter provides it through its typed output vertex `o'`. -/
def famB' (g : AGraph Vtx) (n : String) (u a o' cur : Vtx) (k1 k2 : Nat) : Bool :=
  decide (Vtx.root ∈ g.verts) && u.isValue && decide (u.name = n) && a.isArg && o'.isOut &&
  decide (g.outsW u = [(Vtx.root, weightNormal)]) &&
  decide (g.outsW a = [(u, weightTyped)]) &&
  decide (g.outsW (.func k1) = [(a, weightTyped)]) &&
  decide (g.outsW (.func k2) = [(u, weightNormal)]) &&
  decide (k1 ≠ k2) &&
  decide (g.outsW o' = [(.func k1, weightTyped)]) &&
  decide (g.weight cur o' = some weightTyped) && decide (g.weight cur (.func k2) = some weightNormal) &&
  (g.outs cur).all (fun x => decide (x = o') || decide (x = .func k2))

/-- **Family B, call-graph level** (the name-using converter has a named output): the chosen path for
the parameter reaches it through the name-using converter `f2`. -/
theorem named_converter_path' (g : AGraph Vtx) (hwf : g.WF) (n : String) (S : Nat) (sc : String) (u a o' : Vtx)
    (k1 k2 : Nat) (pops : List Vtx)
    (hfam : famB' g n u a o' (.value n S sc) k1 k2 = true)
    (hleg : legalChoice g (.value n S sc) pops = true) :
    choosePath g (.value n S sc) pops = [Vtx.root, u, .func k2, .value n S sc] := by
  simp only [famB', Bool.and_eq_true, Bool.or_eq_true, decide_eq_true_eq, List.all_eq_true] at hfam
  obtain ⟨⟨⟨⟨⟨⟨⟨⟨⟨⟨⟨⟨⟨hroot, hu⟩, hun⟩, ha⟩, hoO⟩, hou⟩, hoa⟩, hof1⟩, hof2⟩, _⟩, hoo⟩, hw1⟩, hw2⟩, hall⟩ := hfam
  have hL := legalPops_of_legalChoice hleg
  have hr : Vtx.root ∈ (G g (.value n S sc)).verts := by rw [G_verts]; exact hroot
  have hoV := not_value_of_isOut hoO
  obtain ⟨tU, tF1, tF2⟩ := branch_common g hwf n S sc u a k1 k2 hu hun ha hou hoa hof1 hof2
  have tO' : Tied (G g (.value n S sc)) .root o'
      (0 + weightNormal + weightMatchingName + weightTyped + weightTyped) [.func k1, a, u, .root] :=
    .link tF1 (only_plain g hwf n S sc hoo (fun h => by cases h.1)) (fun e => by rw [e] at hoO; cases hoO)
      (fun e => by rw [e] at hoO; cases hoO) small_consts.2.1 (by simp)
  obtain ⟨hpr, hpt⟩ := tied_pred (G_WF g hwf _) hr hL
  have h1 := merge_pred (G_WF g hwf _) hr hL tF2
    ((G_weight_plain g hwf n S sc (fun h => by cases h.1)).trans hw2) small_consts.1
    (fun e => by cases e) (fun e => by cases e) (by
      intro y w hw hne
      rcases hall y (mem_outs.2 (G_edge g hwf n S sc hw)) with rfl | rfl
      · cases ((G_weight_plain g hwf n S sc (fun h => by rw [hoV] at h; cases h.1)).trans hw1).symm.trans hw
        exact ⟨_, _, tO', by simp, small_consts.2.1, by decide, by decide⟩
      · exact absurd rfl hne)
  obtain ⟨hc1, hc2, hc3⟩ := choosePath_chain g (.value n S sc) pops hL.2.1
  obtain ⟨l, hl⟩ := List.getLast?_eq_some_iff.1 hc2
  exact pchain_four (l := l) (rest := []) hl hc1 hc3 h1 (hpt tF2).1 (hpt tU).1 hpr

end ArgMapper.C07
