import ArgMapper.Model.Reach
import ArgMapper.Proofs.AffinityExec
/-! C07, execution level (see Props/C07a.lean for the overview) -/
namespace ArgMapper.C07
open ArgMapper AGraph Generated

/-! ### execution level -/

/-- Walking a path that starts `root, u, a, func k` where `a` is the type-only argument vertex and
the converter `f` at `func k` has that single type-only input: `f` is executed exactly once, on the
value held by `u` — whatever else the store holds, whatever the behaviours. -/
theorem walk_converts_feeder (c : Ctx) (fuel : Nat) (reaching : List Vtx) (s : CallSt) (n : String) (tu : Nat)
    (su : String) (t : Nat) (k : Nat) (f : FuncDesc) (x : PVal) (item : OrcItem) (orest : List OrcItem)
    (hx : s.get (.value n tu su) = some x) (hassign : c.env.assignable x.ty t = true)
    (hf : c.funcOf k = some f) (honce : f.once = false)
    (hreq : c.g.outs (.func k) = [.arg t ""])
    (hin : f.input.values.map (fun v => v.lab.vertex) = [.arg t ""])
    (hlabty : ∀ v ∈ f.input.values, v.lab.ty = t)
    (horc : s.orc = item :: orest) (hitem : item.target = .func k) (hmiss : item.missing = [])
    (hpub : c.publishAfterUpdate = true) (hskip : c.skipRecordsInput = false) :
    let w := [Vtx.root, .value n tu su, .arg t "", .func k].foldl
      (walkStep c (fun v st => reach c false (fuel + 1) reaching v st)) { s := s, final := none, prev := none, err := none }
    ∃ ev, w.s.log = s.log ++ [ev] ∧ ev.fid = f.id ∧ ev.args = [{ ty := t, id := x.id, org := x.org }] := by
  intro w
  have hw : w = walkStep c (fun v st => reach c false (fuel + 1) reaching v st)
      { s := ({ s with last := some x } : CallSt).set (.arg t "") (some x), final := some x,
        prev := some (.arg t ""), err := none } (.func k) := by
    rw [← AffinityExec.walk_root_value_arg c _ s n tu su t x hx hassign]; rfl
  obtain ⟨ev, hlog, hfid, hargs⟩ := AffinityExec.walkStep_func_single c fuel reaching
    { s := ({ s with last := some x } : CallSt).set (.arg t "") (some x), final := some x,
      prev := some (.arg t ""), err := none } rfl k f (.arg t "") t x item orest hf honce hreq rfl
    (by simp only [takenAsIs, AffinityExec.get_set_self, Option.isSome_some])
    (AffinityExec.get_set_self _ _ _) hin hlabty hassign (by simpa using horc) hitem hmiss hskip
  exact ⟨ev, by rw [hw, hlog]; simp [WalkEqs.set_log], hfid, hargs⟩

/-- Walking a path that starts `root, u, func k` where the converter `f` at `func k` takes the named
value `u` itself: `f` is executed exactly once, on the value held by `u`, and nothing else runs. -/
theorem walk_runs_named_converter (c : Ctx) (fuel : Nat) (reaching : List Vtx) (s : CallSt) (n : String) (tu : Nat)
    (su : String) (k : Nat) (f : FuncDesc) (x : PVal) (item : OrcItem) (orest : List OrcItem)
    (hx : s.get (.value n tu su) = some x)
    (hf : c.funcOf k = some f) (honce : f.once = false)
    (hreq : c.g.outs (.func k) = [.value n tu su])
    (hin : f.input.values.map (fun v => v.lab.vertex) = [.value n tu su])
    (hlabty : ∀ v ∈ f.input.values, v.lab.ty = tu) (hxt : x.ty = tu)
    (horc : s.orc = item :: orest) (hitem : item.target = .func k) (hmiss : item.missing = [])
    (htake : c.takeValuedNamed = true) (hskip : c.skipRecordsInput = false) :
    let w := [Vtx.root, .value n tu su, .func k].foldl
      (walkStep c (fun v st => reach c false (fuel + 1) reaching v st)) { s := s, final := none, prev := none, err := none }
    ∃ ev, w.s.log = s.log ++ [ev] ∧ ev.fid = f.id ∧ ev.args = [{ ty := tu, id := x.id, org := x.org }] := by
  intro w
  have hw : w = walkStep c (fun v st => reach c false (fuel + 1) reaching v st)
      { s := { s with last := some x }, final := some x, prev := some (.value n tu su), err := none } (.func k) := by
    rw [← AffinityExec.walk_root_value c _ s n tu su x hx]; rfl
  have hget : ({ s with last := some x } : CallSt).get (.value n tu su) = some x := hx
  obtain ⟨ev, hlog, hfid, hargs⟩ := AffinityExec.walkStep_func_single c fuel reaching
    { s := { s with last := some x }, final := some x, prev := some (.value n tu su), err := none }
    rfl k f (.value n tu su) tu x item orest hf honce hreq rfl
    (by simp only [takenAsIs, htake, hget, Option.isSome_some, Bool.and_self])
    hget hin hlabty (by rw [hxt]; exact TypeEnv.assignable_refl _ _) horc hitem hmiss hskip
  exact ⟨ev, by rw [hw, hlog], hfid, hargs⟩

end ArgMapper.C07
