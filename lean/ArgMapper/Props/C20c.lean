import ArgMapper.Props.C20
/-!
# C20 (continued) — consequences a caller relies on
-/
namespace ArgMapper.C20
open ArgMapper AGraph Traverse
variable {α : Type} [DecidableEq α]

/-- whatever `KahnSort` returns is a topological order (every vertex exactly once, each after all
its predecessors) -/
theorem kahn_sound (g : AGraph α) (hwf : g.WF) (L : List α) (h : kahnSort g = some L) : IsTopo g L := by
  by_cases hc : Cyclic g
  · rw [kahn_cyclic g hwf hc] at h
    cases h
  · obtain ⟨L', hL', ht⟩ := kahn_acyclic g hwf hc
    rw [hL'] at h
    cases h
    exact ht

/-- `KahnSort` returns an order exactly on the acyclic graphs -/
theorem kahn_iff (g : AGraph α) (hwf : g.WF) : (∃ L, kahnSort g = some L) ↔ ¬ Cyclic g := by
  constructor
  · rintro ⟨L, hL⟩ hc
    rw [kahn_cyclic g hwf hc] at hL
    cases hL
  · intro hc
    obtain ⟨L, hL, _⟩ := kahn_acyclic g hwf hc
    exact ⟨L, hL⟩

/-- in a returned order, every vertex comes after each of its predecessors (stated with `hasEdge`) -/
theorem kahn_pred_first (g : AGraph α) (hwf : g.WF) (L : List α) (h : kahnSort g = some L) (u v : α)
    (he : g.hasEdge u v = true) :
    ∃ i j : Nat, L[i]? = some u ∧ L[j]? = some v ∧ i < j := by
  obtain ⟨w, hw⟩ := AGraph.hasEdge_iff_mem.mp he
  exact (kahn_sound g hwf L h).2.2 _ hw

/-- an explored vertex is reachable from the start -/
theorem explored_reach (g : AGraph α) (cb : α → DfsAct) (start x : α) (h : Explored g cb start x) :
    Reach g start x := by
  induction h with
  | start => exact Reach.refl _
  | step _ he _ _ ih => exact Reach.step ih he

/-- DFS never reports a vertex that is not reachable from the start, nor the start itself -/
theorem dfs_reports_reachable (g : AGraph α) (hwf : g.WF) (cb : α → DfsAct) (start : α) (hs : start ∈ g.verts)
    (w : α) (hw : w ∈ (DFS g cb start).log) : Reach g start w ∧ w ≠ start :=
  have ⟨hne, u, hu, he⟩ := (dfs_sound_once g hwf cb start hs).2.1 w hw
  ⟨Reach.step (explored_reach g cb start u hu) he, hne⟩

/-- with a callback that always descends, DFS reports exactly the other vertices reachable from the start -/
theorem dfs_all_reachable (g : AGraph α) (hwf : g.WF) (start : α) (hs : start ∈ g.verts) (w : α) :
    w ∈ (DFS g (fun _ => .descend) start).log ↔ (Reach g start w ∧ w ≠ start) := by
  rw [(dfs_exact g hwf (fun _ => .descend) start hs (fun _ _ => by simp)).2.2 w]
  constructor
  · rintro ⟨hne, u, hu, he⟩
    exact ⟨Reach.step (explored_reach g _ start u hu) he, hne⟩
  · rintro ⟨hr, hne⟩
    cases hr with
    | refl => exact absurd rfl hne
    | step h he => exact ⟨hne, _, TraverseDfs.explored_of_reach h, he⟩

end ArgMapper.C20
