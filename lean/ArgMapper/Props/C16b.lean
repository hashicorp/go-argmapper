import ArgMapper.Proofs.Args
/-!
# C16 (continued): the spellings of a value option agree

`Named("", v)` is `Typed(v)`, `NamedSubtype("", v, st)` is `TypedSubtype(v, st)`, `NamedSubtype(n, v, "")`
is `Named(n, v)`, and a value's own `Arg()` — hence every element of `ValueSet.Args()` — is the
option its label spells out.  The harness uses these spellings interchangeably; the theorems below
are why the model may describe them by one protocol line.
-/
namespace ArgMapper.C16

theorem named_empty_name (b : Builder) (v : Option Val) :
    applyOpt b (.named "" v) = applyOpt b (.typed [v]) := by
  exact setNamed_empty b v

theorem namedSub_empty_name (b : Builder) (v : Option Val) (st : String) :
    applyOpt b (.namedSub "" v st) = applyOpt b (.typedSub v st) := by
  exact setNamedSub_empty_name b v st

theorem namedSub_empty_subtype (b : Builder) (n : String) (v : Option Val) :
    applyOpt b (.namedSub n v "") = applyOpt b (.named n v) := by
  exact setNamedSub_empty_sub b n v

theorem typedSub_empty_subtype (b : Builder) (v : Option Val) :
    applyOpt b (.typedSub v "") = applyOpt b (.typed [v]) := by
  exact setTypedSub_empty b v

/-- a value's `Arg()` is `NamedSubtype(name, v, subtype)` when it has a name and `TypedSubtype(v, subtype)`
when it has none, which is also what `NamedSubtype` does with the empty name: the kind never matters -/
theorem valueArg_eq_namedSub (b : Builder) (n st : String) (v : Val) :
    applyOpt b (valueArg n st v) = applyOpt b (.namedSub n (some v) st) := by
  unfold valueArg
  by_cases hn : n = ""
  · subst hn; rw [if_neg (fun h => h rfl)]; exact (namedSub_empty_name b (some v) st).symm
  · rw [if_pos hn]

theorem valueArg_ne_nil (n st : String) (v : Val) : valueArg n st v ≠ .nilOpt := by
  unfold valueArg; split <;> simp

/-- options that act alike on every builder (and are not the nil option) may replace one another
anywhere in an option list -/
theorem buildFrom_map_congr {α : Type} (f g : α → Opt) (hfg : ∀ a b, applyOpt b (f a) = applyOpt b (g a))
    (hf : ∀ a, f a ≠ .nilOpt) (hg : ∀ a, g a ≠ .nilOpt) (pre post : List Opt) (l : List α) (b : Builder) :
    buildFrom b (pre ++ l.map f ++ post) = buildFrom b (pre ++ l.map g ++ post) := by
  induction pre generalizing b with
  | cons o pre ih =>
    by_cases ho : o = .nilOpt
    · subst ho; simp [buildFrom]
    · simp only [List.cons_append, buildFrom_cons _ _ _ ho]; exact ih _
  | nil =>
    simp only [List.nil_append]
    induction l generalizing b with
    | nil => rfl
    | cons a l ih =>
      simp only [List.map_cons, List.cons_append, buildFrom_cons _ _ _ (hf a), buildFrom_cons _ _ _ (hg a), hfg]
      exact ih _

/-- `ValueSet.Args()` supplies exactly `NamedSubtype(name, value, subtype)` per value, in order:
passing a value set's arguments (anywhere among other options) is passing its values one by one -/
theorem valueSetArgs_build (vals : List ((String × String) × Val)) (pre post : List Opt) :
    build (pre ++ valueSetArgs vals ++ post)
      = build (pre ++ vals.map (fun p => Opt.namedSub p.1.1 (some p.2) p.1.2) ++ post) := by
  unfold build valueSetArgs
  exact buildFrom_map_congr _ _ (fun a b => valueArg_eq_namedSub b _ _ _) (fun a => valueArg_ne_nil _ _ _)
    (fun a => by simp) pre post vals Builder.empty

/-- the same for a call on a function with default options -/
theorem valueSetArgs_buildFor (defaults : List Opt) (vals : List ((String × String) × Val)) (pre post : List Opt) :
    buildFor defaults (pre ++ valueSetArgs vals ++ post)
      = buildFor defaults (pre ++ vals.map (fun p => Opt.namedSub p.1.1 (some p.2) p.1.2) ++ post) := by
  unfold buildFor
  have := valueSetArgs_build vals (defaults ++ pre) post
  simpa [List.append_assoc] using this

/-- what `Args()` yields for a set holding a named and a type-only value -/
example : valueSetArgs [(("Port", ""), ⟨1, 7⟩), (("", "s"), ⟨2, 8⟩)]
    = [.namedSub "Port" (some ⟨1, 7⟩) "", .typedSub (some ⟨2, 8⟩) "s"] := by decide +kernel

end ArgMapper.C16
