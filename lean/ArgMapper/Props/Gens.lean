import ArgMapper.Model.Gens
import ArgMapper.Proofs.GensLemmas
/-!
# Converter generators (C06, and the reach of every `callGraph` theorem)

Property theorems only.  Generators are user code run while the graph is built; the snapshot of
vertices they are invoked for is iterated in Go map order (`order`, any permutation).

* `generators_transparent`: when no generator reports an error, the graph is the graph `callGraph`
  builds for the builder whose converter list is extended by the generated functions — so every
  theorem stated for all builders (C01 injection soundness, C02/C13 unsatisfied reports, C03, C04,
  C05, C08 …) covers generated converters.
* `generator_error_reported`: a generator error on any visited value aborts the call with an error —
  for every iteration order — and nothing else does.
* `generated_sound_complete`, `runGens_perm`: what is generated is exactly what the generators return
  for the snapshot, independent of the order up to permutation.
-/
namespace ArgMapper.C06
open ArgMapper GensLemmas

theorem generators_transparent (var : Variant) (e : TypeEnv) (b : Builder) (funcs : Nat → Option FuncDesc)
    (target : FuncDesc) (redefining : Bool) (filter : Option Filter) (genOf : Nat → Vtx → GenRes)
    (order : List Vtx) (r : CallGraphResult)
    (h : callGraphG var e b funcs target redefining filter genOf order = some r) :
    ∃ l, runGens genOf b.gens order = some l ∧
      r = callGraph var e { b with convs := b.convs ++ l } funcs target redefining filter := by
  unfold callGraphG expandGens at h
  cases hr : runGens genOf b.gens order with
  | none => rw [hr] at h; simp at h
  | some l =>
    rw [hr] at h
    simp only [Option.map_some, Option.some.injEq] at h
    exact ⟨l, rfl, h.symm⟩

/-- without generators nothing changes -/
theorem no_generators (var : Variant) (e : TypeEnv) (b : Builder) (funcs : Nat → Option FuncDesc)
    (target : FuncDesc) (redefining : Bool) (filter : Option Filter) (genOf : Nat → Vtx → GenRes)
    (order : List Vtx) (hg : b.gens = []) :
    callGraphG var e b funcs target redefining filter genOf order =
      some (callGraph var e b funcs target redefining filter) := by
  unfold callGraphG expandGens
  rw [hg, runGens_nil_gens]
  simp only [Option.map_some, List.append_nil]
  rw [← hg]

theorem generator_error_reported (var : Variant) (e : TypeEnv) (b : Builder) (funcs : Nat → Option FuncDesc)
    (target : FuncDesc) (redefining : Bool) (filter : Option Filter) (genOf : Nat → Vtx → GenRes)
    (order : List Vtx) :
    callGraphG var e b funcs target redefining filter genOf order = none ↔
      ∃ v ∈ order, ∃ g ∈ b.gens, genOf g v = .err := by
  unfold callGraphG expandGens
  rw [Option.map_eq_none_iff, Option.map_eq_none_iff]
  exact runGens_eq_none_iff genOf b.gens order

theorem generated_sound_complete (genOf : Nat → Vtx → GenRes) (gens : List Nat) (order : List Vtx)
    (l : List Nat) (h : runGens genOf gens order = some l) (fid : Nat) :
    fid ∈ l ↔ ∃ v ∈ order, ∃ g ∈ gens, genOf g v = .func fid := by
  rw [runGens_eq_some genOf gens order l h, List.mem_flatMap]
  constructor
  · rintro ⟨v, hv, hf⟩
    exact ⟨v, hv, (mem_outs genOf gens v fid).1 hf⟩
  · rintro ⟨v, hv, hf⟩
    exact ⟨v, hv, (mem_outs genOf gens v fid).2 hf⟩

theorem runGens_perm (genOf : Nat → Vtx → GenRes) (gens : List Nat) (o₁ o₂ : List Vtx) (hp : o₁.Perm o₂) :
    (runGens genOf gens o₁ = none ↔ runGens genOf gens o₂ = none) ∧
    ∀ l₁ l₂, runGens genOf gens o₁ = some l₁ → runGens genOf gens o₂ = some l₂ → l₁.Perm l₂ := by
  refine ⟨?_, ?_⟩
  · rw [runGens_eq, runGens_eq, hp.any_eq]
    cases o₂.any (bad genOf gens) <;> simp
  · intro l₁ l₂ h₁ h₂
    rw [runGens_eq_some genOf gens o₁ l₁ h₁, runGens_eq_some genOf gens o₂ l₂ h₂]
    exact hp.flatMap_right _

/-- the snapshot contains only named values and typed outputs … -/
theorem genVerts_kinds (c : CG) (v : Vtx) (h : v ∈ genVerts c) : v.isValue = true ∨ v.isOut = true := by
  unfold genVerts at h
  have := (List.mem_filter.1 h).2
  simpa [Bool.or_eq_true] using this

/-- … and every supplied value is in it: a generator sees each value the caller supplied -/
theorem supplied_in_snapshot (b : Builder) (funcs : Nat → Option FuncDesc) (target : FuncDesc) (v : Vtx)
    (h : v ∈ (inputsGraph ((CG.empty.add .root) |> (funcGraph · target false)) b).2) :
    v ∈ genVerts (preGenGraph b funcs target) := by
  rw [inputsGraph_eq] at h
  unfold genVerts
  exact List.mem_filter.2 ⟨inputs_mem_preGen b funcs target v h, CGE.inputsList_isOrigin b v h⟩

end ArgMapper.C06
