import ArgMapper.Props.C01
import ArgMapper.Proofs.CallGraphFuncs
/-!
# C01 (completion) — discharging the structural hypotheses of `injection_sound_partial`

`injection_sound_partial` assumes `FuncsOK` (the function object of every function vertex knows the
outputs hanging off that vertex) and `hnar` (no typed-argument vertex hangs off the root).  Both hold
for the graph `callGraph` builds for a `Call` when the context resolves a function vertex to the
first registered function of that Go type and functions of the same Go type have the same value
sets (they do: the value sets are computed from the type).
-/
namespace ArgMapper.C01
open ArgMapper

/-- functions with the same Go type (`key`) have the same value sets, and all sets are well keyed -/
def FuncsConsistent (fs : List FuncDesc) : Prop :=
  (∀ f ∈ fs, ∀ g ∈ fs, f.key = g.key → f.input = g.input ∧ f.output = g.output) ∧
  ∀ f ∈ fs, ValueSet.KeysOK f.input ∧ ValueSet.KeysOK f.output

/-- all function objects of a call: the target first, then the converters in registration order -/
def allFuncs (b : Builder) (funcs : Nat → Option FuncDesc) (target : FuncDesc) : List FuncDesc :=
  target :: b.convs.filterMap funcs

/-- the context `Call` runs in: a function vertex holds the first function registered with its type -/
def stdCtx (e : TypeEnv) (b : Builder) (funcs : Nat → Option FuncDesc) (target : FuncDesc)
    (beh : Nat → Nat → List PVal → BehOut) : Ctx :=
  { env := e, g := (callGraph {} e b funcs target false none).cg.g,
    funcOf := fun k => (allFuncs b funcs target).find? (fun f => f.key == k), beh := beh }

/-- value sets built by the model of `NewFunc` are well keyed -/
theorem newFunc_keysOK (ins outs : List Param) (fs : FuncSig) (h : newFunc ins outs = .ok fs) :
    ValueSet.KeysOK fs.input ∧ ValueSet.KeysOK fs.output :=
  ⟨CGF.newValueSet_keysOK (newFunc_ok' h).1, CGF.newValueSet_keysOK (newFunc_ok' h).2.1⟩

/-- in a `Call` graph (not redefining) no typed-argument vertex hangs off the root -/
theorem callGraph_no_arg_root (e : TypeEnv) (b : Builder) (funcs : Nat → Option FuncDesc)
    (target : FuncDesc) (filter : Option Filter) (t : Nat) (s : String) :
    (callGraph {} e b funcs target false filter).cg.g.hasEdge (.arg t s) .root = false := by
  cases h : (callGraph {} e b funcs target false filter).cg.g.hasEdge (.arg t s) .root with
  | false => rfl
  | true => exact absurd (CGF.ginv_callGraph {} e b funcs target filter _ _ h) (by simp [CGF.EdgeP, Vtx.isArg])

theorem stdCtx_funcsOK (e : TypeEnv) (b : Builder) (funcs : Nat → Option FuncDesc) (target : FuncDesc)
    (beh : Nat → Nat → List PVal → BehOut) (hc : FuncsConsistent (allFuncs b funcs target)) :
    FuncsOK (stdCtx e b funcs target beh) := by
  intro k f hfo
  simp only [stdCtx] at hfo ⊢
  exact CGF.funcsOK_of_edgeP (b.convs.filterMap funcs) (allFuncs b funcs target)
    (callGraph {} e b funcs target false none).cg.g
    (CGF.ginv_callGraph {} e b funcs target none)
    (fun f hf => List.mem_cons_of_mem _ hf)
    (fun f hf f' hf' hk => (hc.1 f hf f' hf' hk).2)
    (fun f hf => (hc.2 f hf).2) k f hfo

/-- **C01_injection_sound** (all structural hypotheses discharged) — for every type environment with a
transitive, antisymmetric `Implements`, every set of supplied values and converters, every target,
every behaviour of the function bodies, every oracle (requirement orders and path choices) and every
fuel: each function executed during `Call` gets one value per declared parameter, each of them
supplied by the caller or returned by a converter, and label-compatible with the parameter under the
matching table. -/
theorem injection_sound (e : TypeEnv) (ht : ImplTrans e) (ha : ImplAntisym e)
    (b : Builder) (funcs : Nat → Option FuncDesc) (target : FuncDesc)
    (hc : FuncsConsistent (allFuncs b funcs target))
    (beh : Nat → Nat → List PVal → BehOut) (fuel : Nat) (memo : List (Nat × Memo)) (orc : List OrcItem) :
    ∀ ev ∈ (callWith (stdCtx e b funcs target beh) (callGraph {} e b funcs target false none) target fuel
              (initSt (callGraph {} e b funcs target false none).cg memo orc)).2.log,
      ArgsOK e ev := by
  have henv : (stdCtx e b funcs target beh).env = e := rfl
  have hcg : (stdCtx e b funcs target beh).g = (callGraph {} e b funcs target false none).cg.g := by
    simp only [stdCtx]
  have hnar : ∀ t s, (stdCtx e b funcs target beh).g.hasEdge (.arg t s) .root = false := by
    intro t s
    rw [hcg]
    exact callGraph_no_arg_root e b funcs target none t s
  exact injection_sound_partial e ht ha b funcs target (stdCtx e b funcs target beh) henv hcg
    (stdCtx_funcsOK e b funcs target beh hc) hnar
    (CGE.callGraph_store_isOrigin e b funcs target false none) fuel memo orc

end ArgMapper.C01
