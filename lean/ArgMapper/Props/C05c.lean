import ArgMapper.Props.C05b
import ArgMapper.Props.C06b
import ArgMapper.Proofs.CompleteLegalSingle
import ArgMapper.Proofs.CompleteLegalCE
/-!
# C05 (continued) — completeness with the full label language, under legal oracles

Property theorems only (helper lemmas in `ArgMapper/Proofs/CompleteLegal.lean`,
`ArgMapper/Proofs/CompleteLegalSingle.lean`, `ArgMapper/Proofs/WalkPanic*.lean`; the counterexample in
`ArgMapper/Proofs/CompleteLegalCE.lean`).  `complete_single` and `complete_acyclic` are stated for the
subtype-free fragment and every oracle.  The statements below are for the full label language (names, subtypes,
interface types) and every **legal** oracle (each path is `choosePath` for a legal complete pop order) — which is
what the real algorithm produces, for every map iteration order and every tie-break.  (Before the repair of
finding F22 — an R6 hop `value n t s → value n t ""` copied nothing — the walk could end without a value on a real
path that is not a shortest one, `WalkPanicCE.finalValue_needs_legal`.)

* `complete_acyclic_legal` — clause (b), proved as stated.
* `complete_single_legal` — clause (a), **proved as stated** for the repaired library (`C01.stdCtx` has
  `hopCopies := true`).  History: before the repair of F22 the statement was **false** —
  `counterexample_single_legal` (two single-input converters forming a cycle through one name, two supplied
  values with subtypes; the unrepaired library failed 503 of 3000 identical calls), now stated for the pre-repair
  context `{ C01.stdCtx … with hopCopies := false }`; the same scenario succeeds in the repaired context
  (`counterexample_single_legal_repaired`).  The partial results proved while the statement was false are kept:
  `complete_single_legal_partial_acyclic` (extra hypothesis: the pruned graph is acyclic) and
  `complete_single_legal_partial_no_r6` (extra hypothesis: the pruned graph has no R6 edge; cycles allowed;
  holds for every oracle, legal or not).
-/
namespace ArgMapper.C05
open ArgMapper

/-- the pruned graph has no R6 edge: no named value vertex depends on another named value vertex (R6 joins
`value n t ""`, when no value was supplied for it, to every `value n t s`, `s ≠ ""`) -/
def NoR6 (g : AGraph Vtx) : Prop :=
  ∀ n t s n' t' s', g.hasEdge (.value n t s) (.value n' t' s') = false

/-- **C05_complete_single (full label language, legal oracles)** — clause (a), the ORIGINAL statement: arbitrary
cycles, names, subtypes (R6 edges), interfaces; every converter takes at most one input value.  True since the
repair of finding F22 (an R6 hop copies the value: `C01.stdCtx` has `hopCopies := true`); false before it, see
`counterexample_single_legal` and the comment below. -/
theorem complete_single_legal (e : TypeEnv) (ht : ImplTrans e)
    (b : Builder) (funcs : Nat → Option FuncDesc) (target : FuncDesc)
    (hb : C03.BuilderOK b)
    (hc : C01.FuncsConsistent (C01.allFuncs b funcs target))
    (hsi : SingleInput (b.convs.filterMap funcs))
    (hwf : SetsWF (C01.allFuncs b funcs target))
    (hkey : ∀ f ∈ b.convs.filterMap funcs, f.key ≠ target.key)
    (hsmall : C03.SmallGraph (callGraph {} e b funcs target false none).cg.g)
    (hsat : (callGraph {} e b funcs target false none).unsat = [])
    (beh : Nat → Nat → List PVal → BehOut) (fuel : Nat)
    (hfuel : (C06.funcVerts (callGraph {} e b funcs target false none).cg.g).length + 1 ≤ fuel)
    (memo : List (Nat × Memo)) (orc : List OrcItem)
    (hleg : ∀ it ∈ orc, C03.LegalItem (callGraph {} e b funcs target false none).cg.g it) :
    let r := callWith (C01.stdCtx e b funcs target beh) (callGraph {} e b funcs target false none) target fuel
              (initSt (callGraph {} e b funcs target false none).cg memo orc)
    (∃ res, r.1 = .ok res) ∨ (∃ ε, r.1 = .convErr ε) ∨ (∃ ε res, r.1 = .targetErr ε res) ∨ (∃ w, r.1 = .badOracle w) := by
  have _ := hsmall; have _ := hleg  -- not needed since the repair: the paths need not be shortest
  exact CompleteLegal.single_core (C06.hyps_of e ht b funcs target hb hc hwf) beh hsi hkey hsat fuel hfuel memo orc

/- HISTORY of `complete_single_legal`: **before the repair of finding F22** (context
`{ C01.stdCtx … with hopCopies := false }`) the statement above was FALSE, see `counterexample_single_legal`.

Why it failed.  A named requirement `value n t ""` that is entered by an R6 hop held no value (the hop copied
nothing), so the converter that needs it ran a nested search for it.  That search uses the name discount,
which makes the hop `value n t s → value n t ""` and a detour through a same-named converter chain cost the
same; which predecessor Dijkstra records is a matter of tie-breaking, and each nested `reachTarget` breaks
its ties independently (fresh copy of the graph, fresh map iteration order).  In a cyclic set one tie-break
can route the search for `n/U/""` through `f`, and the next one the search for `f`'s requirement `n/T/""`
through the converter `g` that is being resolved: "unsatisfied".  In Go terms:

    target  func(z Z) int
    f       func(struct{ argmapper.Struct; N T }) struct{ argmapper.Struct; N U }
    g       func(struct{ argmapper.Struct; N U }) struct{ argmapper.Struct; N T; Z Z `argmapper:",typeOnly"` }
    fn.Call(NamedSubtype("n", T{}, "s"), NamedSubtype("n", U{}, "y"), Converter(f, g))

503 of 3000 such calls on the unrepaired library returned `Unsatisfiable arguments: name: "n" (type: T)`, the
others succeeded.  Both ingredients were needed: without a cycle the statement held
(`complete_single_legal_partial_acyclic`), without R6 edges too (`complete_single_legal_partial_no_r6`).
Since the repair the hop copies the value of `value n t s`, the vertex `value n t ""` holds a value when the
converter is reached, its nested search has nothing to look for, and the tie-breaks no longer matter. -/

/- ORIGINAL STATEMENT of `counterexample_single_legal` (before the repair of finding F22; it was stated for
`C01.stdCtx …`, whose R6 hop then copied nothing).  `C01.stdCtx` now has `hopCopies := true` and the scenario
succeeds there (`counterexample_single_legal_repaired`), so the counterexample is restated below for the
pre-repair context `{ C01.stdCtx … with hopCopies := false }`:

    theorem counterexample_single_legal :
        ∃ (e : TypeEnv) (b : Builder) (funcs : Nat → Option FuncDesc) (target : FuncDesc)
          (beh : Nat → Nat → List PVal → BehOut) (orc orc' : List OrcItem),
          ImplTrans e ∧ C03.BuilderOK b ∧ C01.FuncsConsistent (C01.allFuncs b funcs target) ∧
          SingleInput (b.convs.filterMap funcs) ∧ SetsWF (C01.allFuncs b funcs target) ∧
          (∀ f ∈ b.convs.filterMap funcs, f.key ≠ target.key) ∧
          C03.SmallGraph (callGraph {} e b funcs target false none).cg.g ∧
          (callGraph {} e b funcs target false none).unsat = [] ∧
          (C06.funcVerts (callGraph {} e b funcs target false none).cg.g).length + 1 ≤ 5 ∧
          (∀ it ∈ orc, C03.LegalItem (callGraph {} e b funcs target false none).cg.g it) ∧
          (callWith (C01.stdCtx e b funcs target beh) (callGraph {} e b funcs target false none) target 5
            (initSt (callGraph {} e b funcs target false none).cg [] orc)).1 = .unsat [⟨"n", 1, ""⟩] false ∧
          (∀ it ∈ orc', C03.LegalItem (callGraph {} e b funcs target false none).cg.g it) ∧
          (callWith (C01.stdCtx e b funcs target beh) (callGraph {} e b funcs target false none) target 5
            (initSt (callGraph {} e b funcs target false none).cg [] orc')).1 = .ok ⟨[7, 8], none⟩ -/

/-- the counterexample to the original `complete_single_legal`, **in the pre-repair context**
(`hopCopies := false`: an R6 hop copies nothing — finding F22, which this scenario documents): every hypothesis
holds (single-input converters, legal oracle, enough fuel, nothing reported unsatisfied by `callGraph`) and the
call ends in an unsatisfied-argument error; with another legal oracle the same call succeeds.
In the repaired context see `counterexample_single_legal_repaired`. -/
theorem counterexample_single_legal :
    ∃ (e : TypeEnv) (b : Builder) (funcs : Nat → Option FuncDesc) (target : FuncDesc)
      (beh : Nat → Nat → List PVal → BehOut) (orc orc' : List OrcItem),
      ImplTrans e ∧ C03.BuilderOK b ∧ C01.FuncsConsistent (C01.allFuncs b funcs target) ∧
      SingleInput (b.convs.filterMap funcs) ∧ SetsWF (C01.allFuncs b funcs target) ∧
      (∀ f ∈ b.convs.filterMap funcs, f.key ≠ target.key) ∧
      C03.SmallGraph (callGraph {} e b funcs target false none).cg.g ∧
      (callGraph {} e b funcs target false none).unsat = [] ∧
      (C06.funcVerts (callGraph {} e b funcs target false none).cg.g).length + 1 ≤ 5 ∧
      (∀ it ∈ orc, C03.LegalItem (callGraph {} e b funcs target false none).cg.g it) ∧
      (callWith { C01.stdCtx e b funcs target beh with hopCopies := false }
        (callGraph {} e b funcs target false none) target 5
        (initSt (callGraph {} e b funcs target false none).cg [] orc)).1 = .unsat [⟨"n", 1, ""⟩] false ∧
      (∀ it ∈ orc', C03.LegalItem (callGraph {} e b funcs target false none).cg.g it) ∧
      (callWith { C01.stdCtx e b funcs target beh with hopCopies := false }
        (callGraph {} e b funcs target false none) target 5
        (initSt (callGraph {} e b funcs target false none).cg [] orc')).1 = .ok ⟨[7, 8], none⟩ :=
  ⟨CompleteLegalCE.e0, CompleteLegalCE.b, CompleteLegalCE.funcs, CompleteLegalCE.tgt, CompleteLegalCE.beh0,
    CompleteLegalCE.orc, CompleteLegalCE.orcGood, CompleteLegalCE.unsat_reached⟩

/-- the scenario of `counterexample_single_legal` **after the repair of F22** (`C01.stdCtx`, `hopCopies := true`):
with its legal oracle (the forced path to the target's parameter; the nested search of the converter `g` has
nothing missing, because the hop filled `value n U ""`) the call succeeds; the two pre-repair oracles are
rejected as inconsistent with the run (`badOracle`), an outcome `complete_single_legal` admits -/
theorem counterexample_single_legal_repaired :
    (∀ it ∈ CompleteLegalCE.orcFixed,
      C03.LegalItem (callGraph {} CompleteLegalCE.e0 CompleteLegalCE.b CompleteLegalCE.funcs CompleteLegalCE.tgt false none).cg.g it) ∧
    (callWith (C01.stdCtx CompleteLegalCE.e0 CompleteLegalCE.b CompleteLegalCE.funcs CompleteLegalCE.tgt CompleteLegalCE.beh0)
      (callGraph {} CompleteLegalCE.e0 CompleteLegalCE.b CompleteLegalCE.funcs CompleteLegalCE.tgt false none) CompleteLegalCE.tgt 5
      (initSt (callGraph {} CompleteLegalCE.e0 CompleteLegalCE.b CompleteLegalCE.funcs CompleteLegalCE.tgt false none).cg []
        CompleteLegalCE.orcFixed)).1 = .ok ⟨[7, 8], none⟩ ∧
    (callWith (C01.stdCtx CompleteLegalCE.e0 CompleteLegalCE.b CompleteLegalCE.funcs CompleteLegalCE.tgt CompleteLegalCE.beh0)
      (callGraph {} CompleteLegalCE.e0 CompleteLegalCE.b CompleteLegalCE.funcs CompleteLegalCE.tgt false none) CompleteLegalCE.tgt 5
      (initSt (callGraph {} CompleteLegalCE.e0 CompleteLegalCE.b CompleteLegalCE.funcs CompleteLegalCE.tgt false none).cg []
        CompleteLegalCE.orc)).1 = .badOracle "missing" :=
  ⟨CompleteLegalCE.after_repair.1, CompleteLegalCE.after_repair.2.1, CompleteLegalCE.after_repair.2.2.1⟩

/-- **C05_complete_single (full label language, legal oracles), acyclic graphs** — clause (a) with the extra
hypothesis that the pruned graph has no cycle. -/
theorem complete_single_legal_partial_acyclic (e : TypeEnv) (ht : ImplTrans e)
    (b : Builder) (funcs : Nat → Option FuncDesc) (target : FuncDesc)
    (hb : C03.BuilderOK b)
    (hc : C01.FuncsConsistent (C01.allFuncs b funcs target))
    (hsi : SingleInput (b.convs.filterMap funcs))
    (hwf : SetsWF (C01.allFuncs b funcs target))
    (hkey : ∀ f ∈ b.convs.filterMap funcs, f.key ≠ target.key)
    (hsmall : C03.SmallGraph (callGraph {} e b funcs target false none).cg.g)
    (hsat : (callGraph {} e b funcs target false none).unsat = [])
    (hacyc : Acyclic (callGraph {} e b funcs target false none).cg.g)
    (beh : Nat → Nat → List PVal → BehOut) (fuel : Nat)
    (hfuel : (C06.funcVerts (callGraph {} e b funcs target false none).cg.g).length + 1 ≤ fuel)
    (memo : List (Nat × Memo)) (orc : List OrcItem)
    (hleg : ∀ it ∈ orc, C03.LegalItem (callGraph {} e b funcs target false none).cg.g it) :
    let r := callWith (C01.stdCtx e b funcs target beh) (callGraph {} e b funcs target false none) target fuel
              (initSt (callGraph {} e b funcs target false none).cg memo orc)
    (∃ res, r.1 = .ok res) ∨ (∃ ε, r.1 = .convErr ε) ∨ (∃ ε res, r.1 = .targetErr ε res) ∨ (∃ w, r.1 = .badOracle w) := by
  have _ := hkey; have _ := hsmall; have _ := hleg
  obtain ⟨rank, hrank⟩ := hacyc
  have H := C06.hyps_of e ht b funcs target hb hc hwf
  exact CompleteLegal.acyclic_core H beh hsat rank hrank (WalkPanic.paramsKept_of_single H hsi) fuel hfuel
    memo orc

/-- **C05_complete_single (full label language), no R6 edge** — clause (a), arbitrary cycles, with the extra
hypothesis that the pruned graph has no R6 edge.  Holds for **every** oracle (the legality hypothesis and
`SmallGraph` of the original statement are not needed). -/
theorem complete_single_legal_partial_no_r6 (e : TypeEnv) (ht : ImplTrans e)
    (b : Builder) (funcs : Nat → Option FuncDesc) (target : FuncDesc)
    (hb : C03.BuilderOK b)
    (hc : C01.FuncsConsistent (C01.allFuncs b funcs target))
    (hsi : SingleInput (b.convs.filterMap funcs))
    (hwf : SetsWF (C01.allFuncs b funcs target))
    (hkey : ∀ f ∈ b.convs.filterMap funcs, f.key ≠ target.key)
    (hsat : (callGraph {} e b funcs target false none).unsat = [])
    (hno : NoR6 (callGraph {} e b funcs target false none).cg.g)
    (beh : Nat → Nat → List PVal → BehOut) (fuel : Nat)
    (hfuel : (C06.funcVerts (callGraph {} e b funcs target false none).cg.g).length + 1 ≤ fuel)
    (memo : List (Nat × Memo)) (orc : List OrcItem) :
    let r := callWith (C01.stdCtx e b funcs target beh) (callGraph {} e b funcs target false none) target fuel
              (initSt (callGraph {} e b funcs target false none).cg memo orc)
    (∃ res, r.1 = .ok res) ∨ (∃ ε, r.1 = .convErr ε) ∨ (∃ ε res, r.1 = .targetErr ε res) ∨ (∃ w, r.1 = .badOracle w) := by
  have _ := hno  -- needed only before the repair of F22
  exact CompleteLegal.single_core (C06.hyps_of e ht b funcs target hb hc hwf) beh hsi hkey hsat fuel hfuel memo orc

/-- **C05_complete_acyclic (full label language, legal oracles)** — clause (b): any number of inputs, the pruned
graph acyclic, every surviving converter with all its requirement vertices in the graph. -/
theorem complete_acyclic_legal (e : TypeEnv) (ht : ImplTrans e)
    (b : Builder) (funcs : Nat → Option FuncDesc) (target : FuncDesc)
    (hb : C03.BuilderOK b)
    (hc : C01.FuncsConsistent (C01.allFuncs b funcs target))
    (hwf : SetsWF (C01.allFuncs b funcs target))
    (hkey : ∀ f ∈ b.convs.filterMap funcs, f.key ≠ target.key)
    (hsmall : C03.SmallGraph (callGraph {} e b funcs target false none).cg.g)
    (hsat : (callGraph {} e b funcs target false none).unsat = [])
    (hacyc : Acyclic (callGraph {} e b funcs target false none).cg.g)
    (hall : AllConvSat (callGraph {} e b funcs target false none).cg.g (b.convs.filterMap funcs))
    (beh : Nat → Nat → List PVal → BehOut) (fuel : Nat)
    (hfuel : (C06.funcVerts (callGraph {} e b funcs target false none).cg.g).length + 1 ≤ fuel)
    (memo : List (Nat × Memo)) (orc : List OrcItem)
    (hleg : ∀ it ∈ orc, C03.LegalItem (callGraph {} e b funcs target false none).cg.g it) :
    let r := callWith (C01.stdCtx e b funcs target beh) (callGraph {} e b funcs target false none) target fuel
              (initSt (callGraph {} e b funcs target false none).cg memo orc)
    (∃ res, r.1 = .ok res) ∨ (∃ ε, r.1 = .convErr ε) ∨ (∃ ε res, r.1 = .targetErr ε res) ∨ (∃ w, r.1 = .badOracle w) := by
  have _ := hkey  -- not needed: nothing distinguishes the target's vertex in the proof
  have _ := hsmall; have _ := hleg
  obtain ⟨rank, hrank⟩ := hacyc
  exact CompleteLegal.acyclic_core (C06.hyps_of e ht b funcs target hb hc hwf) beh hsat rank hrank hall
    fuel hfuel memo orc

end ArgMapper.C05
