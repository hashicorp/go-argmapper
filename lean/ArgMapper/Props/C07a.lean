import ArgMapper.Model.Reach
import ArgMapper.Proofs.AffinityStep
/-!
# C07 — documented conversion priorities: name affinity decides between equal candidates

Property theorems only.  Three layers:

* **Dijkstra level** (any vertex type, any legal complete pop order): `feeder_pred` — a vertex whose
  feeders all hang off the source at one cost takes the uniquely cheapest feeder as predecessor;
  `branch_pred` — of two branches leaving one vertex and meeting again, the cheaper one is the
  predecessor at the meeting point.  Negative weights are allowed (the discount is −1), so neither is
  an instance of `C18.dist_exact`.
* **call-graph level** (`choosePath` = Dijkstra on the re-weighted reversed copy, any legal pop order):
  `affinity_path` (family A) and `named_converter_path` (family B).
* **execution level** (any state, any behaviours): walking such a path executes the converter on the
  value of the same-named input.

The premises on the graph are decidable (`famA`, `famB`); the driver evaluates them on the real pruned
graph of every affinity scenario and reports how many scenarios they cover.
-/
namespace ArgMapper.C07
open ArgMapper AGraph Generated AffinityProofs

section dijkstra
variable {α : Type} [DecidableEq α]

/-- **Family A, Dijkstra level.**  Every in-neighbour of `a` has the source `r` as its only
in-neighbour, at cost `c`; the edge from `ustar` is strictly the cheapest and all others cost at
least 1.  Then for *every* legal complete pop order the predecessor of `a` is `ustar`, whose
predecessor is `r`. -/
theorem feeder_pred (G : AGraph α) (hwf : G.WF) (r a ustar : α) (c wstar : Int) (pops : List α)
    (hleg : Dijkstra.LegalPops G r pops)
    (hr : r ∈ G.verts) (har : a ≠ r)
    (hstar : G.weight ustar a = some wstar)
    (hfeed : ∀ u w, G.weight u a = some w →
      u ≠ r ∧ u ≠ a ∧ G.weight r u = some c ∧ ∀ x w', G.weight x u = some w' → x = r)
    (hother : ∀ u w, G.weight u a = some w → u ≠ ustar → 1 ≤ w ∧ wstar < w ∧ Small w)
    (hc : 0 ≤ c ∧ Small c) (hws : Small wstar) :
    (Dijkstra.run G r pops).prev a = some ustar ∧ (Dijkstra.run G r pops).prev ustar = some r ∧
    (Dijkstra.run G r pops).prev r = none := by
  -- every feeder is tied to the source at distance `c`
  have htied : ∀ u w, G.weight u a = some w → Tied G r u (0 + c) [r] := fun u w hw =>
    have ⟨hur, _, hru, hin⟩ := hfeed u w hw
    .link .root ⟨hru, hin⟩ hur hur hc.2 (by simp)
  have hs := htied ustar wstar hstar
  refine ⟨merge_pred hwf hr hleg hs hstar hws har (hfeed ustar wstar hstar).2.1.symm ?_,
    ((tied_pred hwf hr hleg).2 hs).1, (tied_pred hwf hr hleg).1⟩
  intro u w hw hne
  obtain ⟨h1, h2, h3⟩ := hother u w hw hne
  exact ⟨_, _, htied u w hw, by simp, h3, Int.add_lt_add_left h2 _,
    Int.lt_add_of_pos_right _ (Int.lt_of_lt_of_le Int.zero_lt_one h1)⟩

/-- **Family B, Dijkstra level.**  `u` hangs off the source only; `f2` is fed by `u` only, `a` by `u`
only, `f1` by `a` only; `o` is fed by `f1` and `f2` only.  If the branch through `f2` is strictly
cheaper than the branch through `a`, `f1` (and `f2` itself is cheaper than that branch's end) then
for every legal complete pop order the predecessor chain of `o` is `r, u, f2, o`. -/
theorem branch_pred (G : AGraph α) (hwf : G.WF) (r u a f1 f2 o : α) (c wa w1 w2 wo1 wo2 : Int) (pops : List α)
    (hleg : Dijkstra.LegalPops G r pops)
    (hr : r ∈ G.verts)
    (hdist : [r, u, a, f1, f2, o].Nodup)
    (hu : G.weight r u = some c ∧ ∀ x w, G.weight x u = some w → x = r)
    (ha : G.weight u a = some wa ∧ ∀ x w, G.weight x a = some w → x = u)
    (hf1 : G.weight a f1 = some w1 ∧ ∀ x w, G.weight x f1 = some w → x = a)
    (hf2 : G.weight u f2 = some w2 ∧ ∀ x w, G.weight x f2 = some w → x = u)
    (ho : G.weight f1 o = some wo1 ∧ G.weight f2 o = some wo2 ∧ ∀ x w, G.weight x o = some w → x = f1 ∨ x = f2)
    (hlt : w2 + wo2 < wa + w1 + wo1) (hlt2 : w2 < wa + w1 + wo1)
    (hc : 0 ≤ c) (hsmall : Small c ∧ Small wa ∧ Small w1 ∧ Small w2 ∧ Small wo1 ∧ Small wo2) :
    (Dijkstra.run G r pops).prev o = some f2 ∧ (Dijkstra.run G r pops).prev f2 = some u ∧
    (Dijkstra.run G r pops).prev u = some r ∧ (Dijkstra.run G r pops).prev r = none := by
  simp only [List.nodup_cons, List.mem_cons, List.not_mem_nil, or_false, not_or, List.nodup_nil,
    and_true] at hdist
  obtain ⟨⟨hru, hra, hrf1, hrf2, hro⟩, ⟨hua, _, huf2, _⟩, ⟨haf1, _, _⟩, _, hf2o, _⟩ := hdist
  obtain ⟨sc, swa, sw1, sw2, swo1, swo2⟩ := hsmall
  have tU : Tied G r u (0 + c) [r] := .link .root hu (Ne.symm hru) (Ne.symm hru) sc (by simp)
  have tA : Tied G r a (0 + c + wa) [u, r] := .link tU ha (Ne.symm hra) (Ne.symm hua) swa (by simp)
  have tF1 : Tied G r f1 (0 + c + wa + w1) [a, u, r] :=
    .link tA hf1 (Ne.symm hrf1) (Ne.symm haf1) sw1 (by simp)
  have tF2 : Tied G r f2 (0 + c + w2) [u, r] := .link tU hf2 (Ne.symm hrf2) (Ne.symm huf2) sw2 (by simp)
  obtain ⟨hpr, hpt⟩ := tied_pred hwf hr hleg
  refine ⟨merge_pred hwf hr hleg tF2 ho.2.1 swo2 (Ne.symm hro) (Ne.symm hf2o) ?_,
    (hpt tF2).1, (hpt tU).1, hpr⟩
  intro y w hw hne
  rcases ho.2.2 y w hw with rfl | rfl
  · cases ho.1.symm.trans hw
    exact ⟨_, _, tF1, by simp, swo1, by omega, by omega⟩
  · exact absurd rfl hne

/-- the same with one more vertex `o'` between `f1` and `o` (the name-using converter has a *named*
output: it feeds the parameter vertex directly, the type-only converter feeds it through its typed
output vertex) -/
theorem branch_pred_long (G : AGraph α) (hwf : G.WF) (r u a f1 f2 o' o : α) (c wa w1 w2 wo1 wo' wo2 : Int)
    (pops : List α)
    (hleg : Dijkstra.LegalPops G r pops)
    (hr : r ∈ G.verts)
    (hdist : [r, u, a, f1, f2, o', o].Nodup)
    (hu : G.weight r u = some c ∧ ∀ x w, G.weight x u = some w → x = r)
    (ha : G.weight u a = some wa ∧ ∀ x w, G.weight x a = some w → x = u)
    (hf1 : G.weight a f1 = some w1 ∧ ∀ x w, G.weight x f1 = some w → x = a)
    (hf2 : G.weight u f2 = some w2 ∧ ∀ x w, G.weight x f2 = some w → x = u)
    (ho' : G.weight f1 o' = some wo1 ∧ ∀ x w, G.weight x o' = some w → x = f1)
    (ho : G.weight o' o = some wo' ∧ G.weight f2 o = some wo2 ∧ ∀ x w, G.weight x o = some w → x = o' ∨ x = f2)
    (hlt : w2 + wo2 < wa + w1 + wo1 + wo') (hlt2 : w2 < wa + w1 + wo1 + wo')
    (hc : 0 ≤ c) (hsmall : Small c ∧ Small wa ∧ Small w1 ∧ Small w2 ∧ Small wo1 ∧ Small wo' ∧ Small wo2) :
    (Dijkstra.run G r pops).prev o = some f2 ∧ (Dijkstra.run G r pops).prev f2 = some u ∧
    (Dijkstra.run G r pops).prev u = some r ∧ (Dijkstra.run G r pops).prev r = none := by
  simp only [List.nodup_cons, List.mem_cons, List.not_mem_nil, or_false, not_or, List.nodup_nil,
    and_true] at hdist
  obtain ⟨⟨hru, hra, hrf1, hrf2, hro', hro⟩, ⟨hua, _, huf2, _⟩, ⟨haf1, _, _⟩, ⟨_, hf1o', _⟩,
    ⟨_, hf2o⟩, _⟩ := hdist
  obtain ⟨sc, swa, sw1, sw2, swo1, swo', swo2⟩ := hsmall
  have tU : Tied G r u (0 + c) [r] := .link .root hu (Ne.symm hru) (Ne.symm hru) sc (by simp)
  have tA : Tied G r a (0 + c + wa) [u, r] := .link tU ha (Ne.symm hra) (Ne.symm hua) swa (by simp)
  have tF1 : Tied G r f1 (0 + c + wa + w1) [a, u, r] :=
    .link tA hf1 (Ne.symm hrf1) (Ne.symm haf1) sw1 (by simp)
  have tF2 : Tied G r f2 (0 + c + w2) [u, r] := .link tU hf2 (Ne.symm hrf2) (Ne.symm huf2) sw2 (by simp)
  have tO' : Tied G r o' (0 + c + wa + w1 + wo1) [f1, a, u, r] :=
    .link tF1 ho' (Ne.symm hro') (Ne.symm hf1o') swo1 (by simp)
  obtain ⟨hpr, hpt⟩ := tied_pred hwf hr hleg
  refine ⟨merge_pred hwf hr hleg tF2 ho.2.1 swo2 (Ne.symm hro) (Ne.symm hf2o) ?_,
    (hpt tF2).1, (hpt tU).1, hpr⟩
  intro y w hw hne
  rcases ho.2.2 y w hw with rfl | rfl
  · cases ho.1.symm.trans hw
    exact ⟨_, _, tO', by simp, swo', by omega, by omega⟩
  · exact absurd rfl hne

end dijkstra

end ArgMapper.C07
