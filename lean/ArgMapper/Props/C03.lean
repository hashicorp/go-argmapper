import ArgMapper.Props.C01b
import ArgMapper.Props.C18
import ArgMapper.Proofs.ExactWins
import ArgMapper.Proofs.ExactWinsTyped
import ArgMapper.Proofs.AffinityCG
/-!
# C03 — exact matches win

Both theorems are read off `ExactWins.exact_core` (helper lemmas in `ArgMapper/Proofs/ExactWins.lean` and
`ArgMapper/Proofs/ExactWinsTyped.lean`).  Both original statements were false for ill-formed builders (and
`exact_wins_named` for inconsistent same-key converters); the originals are kept in comments next to the
corrected theorems, with machine-checked counterexamples.
-/
namespace ArgMapper.C03
open ArgMapper

/-- the value the caller supplied under exactly this parameter's key -/
def exactValue (b : Builder) (p : Label) : Option Val :=
  if p.name ≠ "" then
    (if p.sub = "" then (mapGet b.named p.name).filter (fun v => v.ty == p.ty)
     else (mapGet b.namedSub (p.name, p.sub)).filter (fun v => v.ty == p.ty))
  else if p.sub = "" then mapGet b.typed p.ty else mapGet b.typedSub (p.ty, p.sub)

/-- every parameter of the target has an exactly matching supplied value -/
def ExactAll (b : Builder) (target : FuncDesc) : Prop :=
  ∀ p ∈ target.input.labels, (exactValue b p).isSome = true

/-- the oracle is what the real code computes: each chosen path is Dijkstra's path, for some legal
pop order, on the re-weighted reversed graph -/
def LegalItem (g : AGraph Vtx) (it : OrcItem) : Prop :=
  ∀ (i : Nat) (cur : Vtx) (path : List Vtx), it.missing[i]? = some cur → it.paths[i]? = some path →
    ∃ pops, Dijkstra.LegalPops (discount g cur).reverse Vtx.root pops ∧ path = choosePath g cur pops

/-- the named maps of a builder as the options produce them (every builder `build` returns is like
this, `ExactWins.build_BOK`): one entry per key, no empty subtype in the sub-keyed map -/
def NamedOK (b : Builder) : Prop :=
  (b.named.map (·.1)).Nodup ∧ (b.namedSub.map (·.1)).Nodup ∧ ∀ p ∈ b.namedSub, p.1.2 ≠ ""

/-- functions of the target's Go type (`key`) have the target's input set (they do: the value sets are
computed from the type; this is the part of `C01.FuncsConsistent` that is needed here) -/
def SameInputs (b : Builder) (funcs : Nat → Option FuncDesc) (target : FuncDesc) : Prop :=
  ∀ f ∈ C01.allFuncs b funcs target, f.key = target.key → f.input = target.input

/- ORIGINAL STATEMENT of `exact_wins_named` — FALSE (corrected below: hypotheses `hb` and `hsame` added;
`hk` is not needed).

    theorem exact_wins_named (e : TypeEnv) (b : Builder) (funcs : Nat → Option FuncDesc) (target : FuncDesc)
        (hk : ValueSet.KeysOK target.input) (hnamed : ∀ p ∈ target.input.labels, p.name ≠ "")
        (hex : ExactAll b target)
        (beh : Nat → Nat → List PVal → BehOut) (fuel : Nat) (hfuel : 0 < fuel)
        (memo : List (Nat × Memo)) (orc : List OrcItem) (hm : mapGet memo target.id = none) :
        let r := callWith (C01.stdCtx e b funcs target beh) (callGraph {} e b funcs target false none) target fuel
                  (initSt (callGraph {} e b funcs target false none).cg memo orc)
        (∃ w, r.1 = .badOracle w) ∨
        (∃ ev, r.2.log = [ev] ∧ ev.fid = target.id ∧
          ev.args.map (fun a => some a.id) = target.input.labels.map (fun p => (exactValue b p).map (·.id)))

Why it fails (each counterexample is a theorem below, checked by `decide`):

* `Builder` is an arbitrary record of association lists.  `exactValue` reads the *first* entry for a key
  (`mapGet`), `inputsGraph` lets the *last* one win (`addValued` = map assignment).  With
  `b.named = [("a", ⟨1,10⟩), ("a", ⟨1,20⟩)]` the parameter `a` receives id 20, `exactValue` says 10
  (`counterexample_duplicate_key`).  The same happens with a `namedSub` entry keyed `("a", "")`, which
  overwrites the vertex of the `named` entry `"a"` (`counterexample_empty_subtype`).  Builders made by
  `build` never look like this (`ExactWins.build_BOK`), hence `NamedOK`.
* Nothing ties a converter that has the target's `key` (Go function type) to the target's inputs.
  Such a converter adds its own requirement edges to the target's vertex; `reach` then resolves these too
  and may execute further converters: two events are logged (`counterexample_same_key`).  Hence
  `SameInputs` (implied by `C01.FuncsConsistent`, which `exact_wins` assumes). -/

/-- **C03_exact_wins (named parameters)**, corrected — a target all of whose parameters are named and
exactly supplied: `Call` executes the target and nothing else, whatever else is supplied, for every
oracle; each parameter receives precisely its same-named supplied value.  (After the repair of F4 a
named requirement that already holds a value is taken as is — no search, hence no tie-breaking.) -/
theorem exact_wins_named (e : TypeEnv) (b : Builder) (funcs : Nat → Option FuncDesc) (target : FuncDesc)
    (hb : NamedOK b) (hsame : SameInputs b funcs target)
    (hnamed : ∀ p ∈ target.input.labels, p.name ≠ "")
    (hex : ExactAll b target)
    (beh : Nat → Nat → List PVal → BehOut) (fuel : Nat) (hfuel : 0 < fuel)
    (memo : List (Nat × Memo)) (orc : List OrcItem) (hm : mapGet memo target.id = none) :
    let r := callWith (C01.stdCtx e b funcs target beh) (callGraph {} e b funcs target false none) target fuel
              (initSt (callGraph {} e b funcs target false none).cg memo orc)
    (∃ w, r.1 = .badOracle w) ∨
    (∃ ev, r.2.log = [ev] ∧ ev.fid = target.id ∧
      ev.args.map (fun a => some a.id) = target.input.labels.map (fun p => (exactValue b p).map (·.id))) := by
  intro r
  obtain ⟨n, rfl⟩ : ∃ n, fuel = n + 1 := ⟨fuel - 1, by omega⟩
  have hn : ∀ v ∈ target.input.values, v.lab.name ≠ "" := fun v hv => hnamed _ (List.mem_map.2 ⟨v, hv, rfl⟩)
  rcases ExactWins.exact_core e b funcs target ⟨hb.1, hb.2.1, hb.2.2⟩ hsame hex beh n memo orc hm
      (fun _ _ _ _ _ v hv h => absurd h (hn v hv)) with h | ⟨ev, f, h1, h2, _, h4, h5⟩
  · exact .inl h
  · refine .inr ⟨ev, h1, h2, ?_⟩
    rw [h4, ValueSet.labels, List.map_map, List.map_map]
    exact List.map_congr_left fun v hv => (h5 v hv).1 (hn v hv)

/-- `SameInputs` follows from the consistency hypothesis of C01 -/
theorem sameInputs_of_consistent (b : Builder) (funcs : Nat → Option FuncDesc) (target : FuncDesc)
    (hc : C01.FuncsConsistent (C01.allFuncs b funcs target)) : SameInputs b funcs target :=
  fun f hf hk => (hc.1 f hf target (by simp [C01.allFuncs]) hk).1

/-- builders returned by `build` satisfy `NamedOK` -/
theorem namedOK_of_build (opts : List Opt) (b : Builder) (h : build opts = .ok b ∨ build opts = .optErr b) :
    NamedOK b :=
  have h' := (ExactWins.build_BOK opts b h).1
  ⟨h'.named_nodup, h'.namedSub_nodup, h'.namedSub_sub⟩

/-! ### the counterexamples to the original statement -/

namespace CE
def env : TypeEnv := { isIface := fun _ => false, impl := fun _ _ => false }
def inA : ValueSet :=
  { hasStruct := true, ptrs := 0, values := [⟨⟨"a", 1, ""⟩, 0⟩], named := [("a", ⟨⟨"a", 1, ""⟩, 0⟩)], typed := [],
    lifted := false }
def target : FuncDesc := { id := 0, key := 100, input := inA, output := ValueSet.nil, hasErr := false, once := false }
def beh : Nat → Nat → List PVal → BehOut := fun _ _ _ => { outs := [], err := none }
def run (b : Builder) (funcs : Nat → Option FuncDesc) (orc : List OrcItem) : Outcome × CallSt :=
  callWith (C01.stdCtx env b funcs target beh) (callGraph {} env b funcs target false none) target 5
    (initSt (callGraph {} env b funcs target false none).cg [] orc)
def dupKey : Builder := { Builder.empty with named := [("a", ⟨1, 10⟩), ("a", ⟨1, 20⟩)] }
def emptySub : Builder := { Builder.empty with named := [("a", ⟨1, 10⟩)], namedSub := [(("a", ""), ⟨1, 20⟩)] }
/-- a converter with the target's key that wants a typed `5`, and a converter producing it from nothing -/
def conv7 : FuncDesc :=
  { id := 7, key := 100,
    input := { hasStruct := true, ptrs := 0, values := [⟨⟨"", 5, ""⟩, 0⟩], named := [], typed := [(5, ⟨⟨"", 5, ""⟩, 0⟩)],
               lifted := false },
    output := ValueSet.nil, hasErr := false, once := false }
def conv8 : FuncDesc :=
  { id := 8, key := 200, input := { ValueSet.nil with hasStruct := true },
    output := { hasStruct := true, ptrs := 0, values := [⟨⟨"", 5, ""⟩, 0⟩], named := [], typed := [(5, ⟨⟨"", 5, ""⟩, 0⟩)],
                lifted := false },
    hasErr := false, once := false }
def funcs : Nat → Option FuncDesc := fun i => if i = 7 then some conv7 else if i = 8 then some conv8 else none
def sameKey : Builder := { Builder.empty with named := [("a", ⟨1, 10⟩)], convs := [7, 8] }
def orc0 : List OrcItem := [{ target := .func 100, missing := [], paths := [] }]
def orc2 : List OrcItem :=
  [{ target := .func 100, missing := [.arg 5 ""], paths := [[.root, .func 200, .out 5 "", .arg 5 ""]] },
   { target := .func 200, missing := [], paths := [] }]
end CE

/-- two entries under one key: the hypotheses of the original statement hold, the call succeeds, and the
parameter receives id 20 although `exactValue` is id 10 -/
theorem counterexample_duplicate_key :
    ValueSet.KeysOK CE.target.input ∧ (∀ p ∈ CE.target.input.labels, p.name ≠ "") ∧
    ExactAll CE.dupKey CE.target ∧
    (CE.run CE.dupKey (fun _ => none) CE.orc0).1 = .ok { outs := [], err := none } ∧
    (CE.run CE.dupKey (fun _ => none) CE.orc0).2.log.map (fun ev => ev.args.map (fun a => some a.id)) = [[some 20]] ∧
    CE.target.input.labels.map (fun p => (exactValue CE.dupKey p).map (·.id)) = [some 10] := by
  unfold ValueSet.KeysOK ExactAll
  decide +kernel

/-- a `namedSub` entry with an empty subtype overwrites the vertex of the `named` entry -/
theorem counterexample_empty_subtype :
    ValueSet.KeysOK CE.target.input ∧ (∀ p ∈ CE.target.input.labels, p.name ≠ "") ∧
    ExactAll CE.emptySub CE.target ∧
    (CE.run CE.emptySub (fun _ => none) CE.orc0).1 = .ok { outs := [], err := none } ∧
    (CE.run CE.emptySub (fun _ => none) CE.orc0).2.log.map (fun ev => ev.args.map (fun a => some a.id)) = [[some 20]] ∧
    CE.target.input.labels.map (fun p => (exactValue CE.emptySub p).map (·.id)) = [some 10] := by
  unfold ValueSet.KeysOK ExactAll
  decide +kernel

/-- a converter with the target's key but other inputs: a second function is executed -/
theorem counterexample_same_key :
    ValueSet.KeysOK CE.target.input ∧ (∀ p ∈ CE.target.input.labels, p.name ≠ "") ∧
    ExactAll CE.sameKey CE.target ∧
    NamedOK CE.sameKey ∧
    (CE.run CE.sameKey CE.funcs CE.orc2).1 = .ok { outs := [], err := none } ∧
    (CE.run CE.sameKey CE.funcs CE.orc2).2.log.map (·.fid) = [8, 0] := by
  unfold ValueSet.KeysOK ExactAll NamedOK
  decide +kernel

/-- the graph is small enough for Dijkstra's `int32` distances (any realistic call graph is) -/
def SmallGraph (g : AGraph Vtx) : Prop := (g.edges.map (fun e => e.2.2)).sum < maxInt32

/-- builders as the options produce them (every builder `build` returns is like this,
`builderOK_of_build`): `NamedOK`, and a typed entry is keyed by the dynamic type of the value it holds -/
def BuilderOK (b : Builder) : Prop :=
  NamedOK b ∧ (∀ p ∈ b.typed, p.2.ty = p.1) ∧ ∀ p ∈ b.typedSub, p.2.ty = p.1.1

theorem builderOK_of_build (opts : List Opt) (b : Builder) (h : build opts = .ok b ∨ build opts = .optErr b) :
    BuilderOK b :=
  have h' := ExactWins.build_BOK opts b h
  ⟨⟨h'.1.named_nodup, h'.1.namedSub_nodup, h'.1.namedSub_sub⟩, h'.2.typed_ty, h'.2.typedSub_ty⟩

/- ORIGINAL STATEMENT of `exact_wins` — FALSE (corrected below: hypothesis `hb : BuilderOK b` added).

    theorem exact_wins (e : TypeEnv) (b : Builder) (funcs : Nat → Option FuncDesc) (target : FuncDesc)
        (hc : C01.FuncsConsistent (C01.allFuncs b funcs target)) (hex : ExactAll b target)
        (hsmall : SmallGraph (callGraph {} e b funcs target false none).cg.g)
        (beh : Nat → Nat → List PVal → BehOut) (fuel : Nat) (hfuel : 0 < fuel)
        (memo : List (Nat × Memo)) (orc : List OrcItem) (hm : mapGet memo target.id = none)
        (hleg : ∀ it ∈ orc, LegalItem (callGraph {} e b funcs target false none).cg.g it) :
        let r := callWith (C01.stdCtx e b funcs target beh) (callGraph {} e b funcs target false none) target fuel
                  (initSt (callGraph {} e b funcs target false none).cg memo orc)
        (∃ w, r.1 = .badOracle w) ∨
        (∃ ev, r.2.log = [ev] ∧ ev.fid = target.id ∧
          ∀ (i : Nat) (p : Label) (a : PVal), ev.params[i]? = some p → ev.args[i]? = some a →
            (p.name ≠ "" → some a.id = (exactValue b p).map (·.id)) ∧
            (p.name = "" → a.org.isOrigin = true ∧ a.org.ty = p.ty ∧
              ∃ v, mapGet (callGraph {} e b funcs target false none).cg.store a.org = some v ∧ v.id = a.id))

Why it fails: as for `exact_wins_named`, `Builder` is an arbitrary record.
* Two `named` entries under one key make the parameter receive the last one while `exactValue` reads the
  first (`counterexample_duplicate_key_typed` — the builder of `counterexample_duplicate_key`, now with
  all hypotheses of this statement).
* A typed entry filed under a key other than its value's type (`b.typed = [(1, ⟨2,10⟩)]`, impossible with
  `Typed(...)`, which keys by `reflect.TypeOf`) satisfies `ExactAll` for a parameter of type 1, but the value
  of type 2 is not assignable to the argument vertex: the legal path `[root, out 1, arg 1]` ends without a
  final value and `Call` panics (`counterexample_typed_key`). -/

/-- **C03_exact_wins (type-only parameters)**, corrected — for every *legal* oracle: with an exactly
matching typed value supplied for every type-only parameter (and exactly matching named values for the
named ones), no converter is executed and each type-only parameter receives a supplied value of
exactly its type.  Uses the exactness of Dijkstra (C18): the direct path costs `normal + typed`, any
path through a function vertex costs at least `normal + typed + normal`. -/
theorem exact_wins (e : TypeEnv) (b : Builder) (funcs : Nat → Option FuncDesc) (target : FuncDesc)
    (hb : BuilderOK b)
    (hc : C01.FuncsConsistent (C01.allFuncs b funcs target)) (hex : ExactAll b target)
    (hsmall : SmallGraph (callGraph {} e b funcs target false none).cg.g)
    (beh : Nat → Nat → List PVal → BehOut) (fuel : Nat) (hfuel : 0 < fuel)
    (memo : List (Nat × Memo)) (orc : List OrcItem) (hm : mapGet memo target.id = none)
    (hleg : ∀ it ∈ orc, LegalItem (callGraph {} e b funcs target false none).cg.g it) :
    let r := callWith (C01.stdCtx e b funcs target beh) (callGraph {} e b funcs target false none) target fuel
              (initSt (callGraph {} e b funcs target false none).cg memo orc)
    (∃ w, r.1 = .badOracle w) ∨
    (∃ ev, r.2.log = [ev] ∧ ev.fid = target.id ∧
      ∀ (i : Nat) (p : Label) (a : PVal), ev.params[i]? = some p → ev.args[i]? = some a →
        (p.name ≠ "" → some a.id = (exactValue b p).map (·.id)) ∧
        (p.name = "" → a.org.isOrigin = true ∧ a.org.ty = p.ty ∧
          ∃ v, mapGet (callGraph {} e b funcs target false none).cg.store a.org = some v ∧ v.id = a.id)) := by
  intro r
  obtain ⟨n, rfl⟩ : ∃ n, fuel = n + 1 := ⟨fuel - 1, by omega⟩
  -- the path a legal item gives for a type-only parameter is Dijkstra's, so it is the direct one
  rcases ExactWins.exact_core e b funcs target ⟨hb.1.1, hb.1.2.1, hb.1.2.2⟩ (sameInputs_of_consistent b funcs target hc)
      hex beh n memo orc hm (fun item rest horc cp hcp v hv hn hcur => by
        obtain ⟨i, hi⟩ := List.mem_iff_getElem?.1 hcp
        rw [List.getElem?_zip_eq_some] at hi
        obtain ⟨pops, hpops, hpath⟩ := hleg item (horc ▸ List.mem_cons_self) i _ _ hi.1 hi.2
        rw [hcur] at hpops hpath
        rw [hpath]
        exact ExactWins.legal_path_good e b funcs target ⟨hb.2.1, hb.2.2⟩ hsmall v hv hn
          (hex _ (List.mem_map.2 ⟨v, hv, rfl⟩)) pops hpops memo orc) with h | ⟨ev, f, h1, h2, h3, h4, h5⟩
  · exact .inl h
  · refine .inr ⟨ev, h1, h2, fun i p a hp ha => ?_⟩
    rw [h3, ValueSet.labels, List.getElem?_map] at hp
    rw [h4, List.getElem?_map] at ha
    cases hvi : target.input.values[i]? with
    | none => rw [hvi] at hp; cases hp
    | some v =>
      rw [hvi] at hp ha
      cases hp
      cases ha
      exact h5 v (List.mem_of_getElem? hvi)

/-! ### the counterexamples to the original statement of `exact_wins` -/

/-- The oracle of a concrete scenario is shown legal item by item, requirement by requirement: `pops` is a pop order
that the executable check `legalChoice` accepts and for which Dijkstra's path is `p`. -/
theorem LegalItem.cons {g : AGraph Vtx} {t cur : Vtx} {p ms : List Vtx} {ps : List (List Vtx)} (pops : List Vtx)
    (h : legalChoice g cur pops = true ∧ p = choosePath g cur pops) (ht : LegalItem g ⟨t, ms, ps⟩) :
    LegalItem g ⟨t, cur :: ms, p :: ps⟩ := by
  intro i c path h1 h2
  cases i with
  | zero =>
    cases h1; cases h2
    exact ⟨pops, AffinityCG.legalPops_of_legalChoice h.1, h.2⟩
  | succ j => exact ht j c path h1 h2

theorem LegalItem.nil (g : AGraph Vtx) (t : Vtx) (ps : List (List Vtx)) : LegalItem g ⟨t, [], ps⟩ := by
  intro i c path h1
  cases h1

namespace CE
def inT : ValueSet :=
  { hasStruct := true, ptrs := 0, values := [⟨⟨"", 1, ""⟩, 0⟩], named := [], typed := [(1, ⟨⟨"", 1, ""⟩, 0⟩)],
    lifted := false }
def targetT : FuncDesc := { id := 0, key := 100, input := inT, output := ValueSet.nil, hasErr := false, once := false }
/-- a value of type 2 filed under the key 1 -/
def badKey : Builder := { Builder.empty with typed := [(1, ⟨2, 10⟩)] }
def orcT : List OrcItem :=
  [{ target := .func 100, missing := [.arg 1 ""], paths := [[.root, .out 1 "", .arg 1 ""]] }]
def runT : Outcome × CallSt :=
  callWith (C01.stdCtx env badKey (fun _ => none) targetT beh) (callGraph {} env badKey (fun _ => none) targetT false none)
    targetT 5 (initSt (callGraph {} env badKey (fun _ => none) targetT false none).cg [] orcT)
end CE

/-- all hypotheses of the original `exact_wins` hold for the duplicate-key builder, and the parameter still
receives id 20 instead of `exactValue`'s id 10 -/
theorem counterexample_duplicate_key_typed :
    C01.FuncsConsistent (C01.allFuncs CE.dupKey (fun _ => none) CE.target) ∧ ExactAll CE.dupKey CE.target ∧
    SmallGraph (callGraph {} CE.env CE.dupKey (fun _ => none) CE.target false none).cg.g ∧
    (∀ it ∈ CE.orc0, LegalItem (callGraph {} CE.env CE.dupKey (fun _ => none) CE.target false none).cg.g it) ∧
    (CE.run CE.dupKey (fun _ => none) CE.orc0).1 = .ok { outs := [], err := none } ∧
    (CE.run CE.dupKey (fun _ => none) CE.orc0).2.log.map (fun ev => ev.args.map (fun a => some a.id)) = [[some 20]] ∧
    CE.target.input.labels.map (fun p => (exactValue CE.dupKey p).map (·.id)) = [some 10] := by
  have hleg : ∀ it ∈ CE.orc0,
      LegalItem (callGraph {} CE.env CE.dupKey (fun _ => none) CE.target false none).cg.g it := by
    intro it hit
    simp only [CE.orc0, List.mem_singleton] at hit
    subst hit
    exact .nil _ _ _
  have hrest := counterexample_duplicate_key
  refine ⟨?_, hrest.2.2.1, ?_, hleg, hrest.2.2.2⟩
  · unfold C01.FuncsConsistent ValueSet.KeysOK; decide +kernel
  · unfold SmallGraph; decide +kernel

/-- a typed value filed under a key that is not its type: every hypothesis of the original statement holds
(the oracle's path is Dijkstra's, for the pop order shown), and `Call` panics -/
theorem counterexample_typed_key :
    C01.FuncsConsistent (C01.allFuncs CE.badKey (fun _ => none) CE.targetT) ∧ ExactAll CE.badKey CE.targetT ∧
    SmallGraph (callGraph {} CE.env CE.badKey (fun _ => none) CE.targetT false none).cg.g ∧
    (∀ it ∈ CE.orcT, LegalItem (callGraph {} CE.env CE.badKey (fun _ => none) CE.targetT false none).cg.g it) ∧
    CE.runT.1 = .panic .finalValue ∧ CE.runT.2.log = [] := by
  -- everything that needs the call graph, in one evaluation
  have h : SmallGraph (callGraph {} CE.env CE.badKey (fun _ => none) CE.targetT false none).cg.g ∧
      (legalChoice (callGraph {} CE.env CE.badKey (fun _ => none) CE.targetT false none).cg.g (.arg 1 "")
          [.root, .out 1 "", .arg 1 "", .func 100] = true ∧
        [.root, .out 1 "", .arg 1 ""] =
          choosePath (callGraph {} CE.env CE.badKey (fun _ => none) CE.targetT false none).cg.g (.arg 1 "")
            [.root, .out 1 "", .arg 1 "", .func 100]) ∧
      CE.runT.1 = .panic .finalValue ∧ CE.runT.2.log = [] := by
    unfold SmallGraph; decide +kernel
  refine ⟨?_, ?_, h.1, ?_, h.2.2⟩
  · unfold C01.FuncsConsistent ValueSet.KeysOK; decide +kernel
  · unfold ExactAll; decide +kernel
  · intro it hit
    simp only [CE.orcT, List.mem_singleton] at hit
    subst hit
    exact .cons _ h.2.1 (.nil _ _ _)

end ArgMapper.C03
