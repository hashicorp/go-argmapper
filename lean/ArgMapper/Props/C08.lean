import ArgMapper.Model.Redefine
import ArgMapper.Proofs.RedefineInputs
/-!
# C08 — Redefine yields a function over exactly the missing, permitted inputs (model level)

Property theorems only (helper lemmas in `ArgMapper/Proofs/RedefineInputs.lean`).
-/
namespace ArgMapper.C08
open ArgMapper

/-- does the input filter admit a value of this type? (`none` = no filter given) -/
def passes (e : TypeEnv) (fin : Option Filter) (t : Nat) : Bool :=
  match fin with
  | none => true
  | some f => f.eval e t

/-- **C08_inputs_filtered_fresh** — when the planning run succeeds, every input the redefined function
declares (a) passes the input filter and (b) is not one of the vertices the caller supplied a value
for.  Holds for every oracle (root-first real paths, as `validPath` checks) and every behaviour of
the stand-ins; `skipRecordsInput = false` is the repaired behaviour (finding F9a), and the graph is
built with the repaired rule R8 (finding F9b). -/
theorem inputs_filtered_fresh (e : TypeEnv) (b : Builder) (funcs : Nat → Option FuncDesc)
    (target : FuncDesc) (fin fout : Option Filter) (c : Ctx)
    (hg : c.g = (callGraph {} e b funcs target true fin).cg.g) (hskip : c.skipRecordsInput = false)
    (fuel : Nat) (s0 : CallSt) (hin : s0.inputSet = []) (ls : List Label)
    (h : redefine c (callGraph {} e b funcs target true fin) target fout fuel s0 = .ok ls) :
    ∀ l ∈ ls, passes e fin l.ty = true ∧
      ∃ v, v ∉ (callGraph {} e b funcs target true fin).inputs ∧ (v.isValue = true ∨ v.isArg = true) ∧
        l = { v.label with sub := "" } := by
  intro l hl
  obtain ⟨_, I, _, rfl, _, hadj, _⟩ := RedefineInputs.redefine_resolved hskip hin h
  obtain ⟨v, hv, hnot, hkind, hlab⟩ := (RedefineInputs.mem_declaredInputs _ _ l).1 hl
  have hty : l.ty = v.ty := by
    rw [hlab]
    rcases hkind with hk | hk <;> cases v <;> first | rfl | cases hk
  refine ⟨?_, v, hnot, hkind, hlab⟩
  rcases RedefineInputs.callGraph_rootAdj {} e b funcs target fin v hkind (hg ▸ hadj v hv) with hmem | hp
  · exact absurd hmem hnot
  · rw [hty]
    exact hp

/-- the freshness half, stated on vertices: a declared input comes from a used input vertex that is
not among the supplied ones -/
theorem declared_not_supplied (inputSet provided : List Vtx) (l : Label) (h : l ∈ declaredInputs inputSet provided) :
    ∃ v ∈ inputSet, v ∉ provided ∧ (v.isValue = true ∨ v.isArg = true) ∧ l = { v.label with sub := "" } :=
  (RedefineInputs.mem_declaredInputs inputSet provided l).1 h

/-- **C08_output_filter** — Redefine fails exactly with the output-filter error iff some output of the
function is rejected by the output filter (checked before anything else) -/
theorem output_filter (c : Ctx) (cgr : CallGraphResult) (target : FuncDesc) (fout : Option Filter)
    (fuel : Nat) (s0 : CallSt) :
    redefine c cgr target fout fuel s0 = .outputFiltered ↔ outputsPass c.env target fout = false := by
  have h := RedefineInputs.redefine_cases c cgr target fout fuel s0
  generalize redefine c cgr target fout fuel s0 = r at h ⊢
  cases h with
  | filtered ho => exact ⟨fun _ => ho, fun _ => rfl⟩
  | graphUnsat ho hu => rw [ho]; exact ⟨fun h => (by cases h), fun h => (by cases h)⟩
  | @reachErr ho hu e s hr => rw [ho]; exact ⟨fun h => (by cases e <;> cases h), fun h => (by cases h)⟩
  | planned ho hu hr => rw [ho]; exact ⟨fun h => (by split at h <;> cases h), fun h => (by cases h)⟩

/-- what `reachTarget` records in redefine mode (after the repair of F9a) is adjacent to the root -/
theorem inputSet_root_adjacent (c : Ctx) (hskip : c.skipRecordsInput = false) (fuel : Nat)
    (reaching : List Vtx) (t : Vtx) (s : CallSt) (hs : ∀ v ∈ s.inputSet, c.g.hasEdge v .root = true) :
    ∀ v ∈ (reach c true fuel reaching t s).2.inputSet, c.g.hasEdge v .root = true :=
  RedefineInputs.reach_inputSet c hskip true fuel reaching t s hs

/-- in the Redefine graph a value / typed-argument vertex adjacent to the root is either a supplied
value or passes the input filter -/
theorem root_adjacent_supplied_or_permitted (e : TypeEnv) (b : Builder) (funcs : Nat → Option FuncDesc)
    (target : FuncDesc) (fin : Option Filter) (v : Vtx) (hv : v.isValue = true ∨ v.isArg = true)
    (h : (callGraph {} e b funcs target true fin).cg.g.hasEdge v .root = true) :
    v ∈ (callGraph {} e b funcs target true fin).inputs ∨ passes e fin v.ty = true :=
  RedefineInputs.callGraph_rootAdj {} e b funcs target fin v hv h

end ArgMapper.C08
