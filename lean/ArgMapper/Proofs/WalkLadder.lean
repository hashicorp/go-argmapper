import ArgMapper.Proofs.SearchOut
import ArgMapper.Proofs.ExecEqs
import ArgMapper.Proofs.CallGraphEq
/-!
# The walk along a chosen path: one invariant for `walkStep`, `walkPaths` and `reach` (namespace `ArgMapper.Complete`)

For a context that satisfies `WalkFacts` (edges follow the rules, output lookups succeed with the vertex's
type) every walk along a real root-first path maintains

* (V) type soundness of the store, (S) supplied vertices hold a value, (M) no erring memo cell when no body
  reports an error (`SInv`), and a predicate `F` on the two fields only `reach` itself changes (`PInv`);
* (P) progress (`PrevP`): the vertex just processed holds a value (after a function vertex, its outputs do);
  that value is `last` after a value or out vertex and `final` after a value or argument vertex.  An R6 hop
  `value n t s → value n t ""` is no exception: it copies the value (`c.hopCopies`, the repair of finding F22),
  or the graph has no such edge (`WalkFacts.noHop`).

What differs from one use to the next is a parameter: the errors `E` a search may end in; `K`, whether every
parameter of an executed function is known to be a requirement of its vertex (else `callDirect` may miss an
argument); `Q`, what is known of the vertices of the chosen paths; and what the nested search does at a
function vertex (`RecOK`).
-/
namespace ArgMapper.Complete
open ArgMapper WalkEqs ExecEqs ReachSound ReachEqs

def NE (c : Ctx) : Prop := ∀ f n a, (c.beh f n a).err = none

/-- the errors a complete resolution may end in -/
def Allowed (N : Prop) (e : RErr) : Prop :=
  (∃ w, e = .badOracle w) ∨ ((∃ ε, e = .funcErr ε) ∧ ¬ N)

def OutTyped (f : FuncDesc) (l : List Vtx) : Prop :=
  ∀ v ∈ l,
    (∀ n t s, v = .value n t s → ∃ sv, mapGet f.output.named n = some sv ∧ sv.lab.ty = t) ∧
    (∀ t s, v = .out t s → ∃ sv, mapGet f.output.typed t = some sv ∧ sv.lab.ty = t) ∧
    (v.isValue = true ∨ v.isOut = true)

/-- `N` stands for "no function body reports an error"; it is `False` when nothing is assumed -/
structure WalkFacts (c : Ctx) (N : Prop) : Prop where
  hN : N → NE c
  pub : c.publishAfterUpdate = true
  mc : c.memoCopy = true
  trans : ImplTrans c.env
  edgeOK : EdgeOK c.env c.g
  /-- R6 hops copy the value (repair of F22), or there is no R6 edge -/
  noHop : c.hopCopies = true ∨ ∀ n t s n' t' s', c.g.hasEdge (.value n t s) (.value n' t' s') = false
  funcKey : ∀ k f, c.funcOf k = some f → f.key = k
  outTyped : ∀ k f, c.funcOf k = some f → OutTyped f (c.g.ins (.func k))

/-- `E` includes the errors a walk cannot exclude -/
structure ErrOK (N K : Prop) (E : RErr → Prop) : Prop where
  funcErr : ∀ ε, ¬ N → E (.funcErr ε)
  missingArg : ¬ K → E .missingArg
  badOracle : ∀ w, E (.badOracle w)

theorem Allowed.errOK (N : Prop) : ErrOK N True (Allowed N) :=
  ⟨fun ε hn => .inr ⟨⟨ε, rfl⟩, hn⟩, fun h => (h trivial).elim, fun w => .inl ⟨w, rfl⟩⟩

structure SInv (c : Ctx) (N : Prop) (Sup : Vtx → Prop) (s : CallSt) : Prop where
  typed : ∀ x v, s.get x = some v → c.env.assignable v.ty x.ty = true
  sup : ∀ x, Sup x → (s.get x).isSome = true
  memo : N → ∀ p ∈ s.memo, p.2.res.err = none

structure PInv (c : Ctx) (N : Prop) (Sup : Vtx → Prop) (F : List OrcItem → List Vtx → Prop) (s : CallSt) :
    Prop where
  sinv : SInv c N Sup s
  rest : F s.orc s.inputSet

/-- the invariant of a search in `Call` mode: nothing is said of the oracle and the input set -/
abbrev CInv (c : Ctx) (N : Prop) (Sup : Vtx → Prop) : CallSt → Prop := PInv c N Sup (fun _ _ => True)

variable {c : Ctx} {N K : Prop} {Sup Q : Vtx → Prop} {F : List OrcItem → List Vtx → Prop} {E : RErr → Prop}

theorem SInv.congr {s s' : CallSt} (h : SInv c N Sup s) (hs : s'.store = s.store) (hm : s'.memo = s.memo) :
    SInv c N Sup s' := by
  refine ⟨?_, ?_, ?_⟩
  · intro x v hv
    unfold CallSt.get at hv
    rw [hs] at hv
    exact h.typed x v hv
  · intro x hx
    have := h.sup x hx
    unfold CallSt.get at this ⊢
    rw [hs]; exact this
  · rw [hm]; exact h.memo

theorem SInv.set {s : CallSt} (h : SInv c N Sup s) (v : Vtx) (a : PVal)
    (ha : c.env.assignable a.ty v.ty = true) : SInv c N Sup (s.set v (some a)) := by
  refine ⟨?_, ?_, ?_⟩
  · intro x b hb
    rw [get_set] at hb
    split at hb
    · rename_i hxv
      simp only [Option.some.injEq] at hb
      subst hb; subst hxv; exact ha
    · exact h.typed x b hb
  · intro x hx
    rw [get_set]
    split
    · rfl
    · exact h.sup x hx
  · rw [set_memo]; exact h.memo

theorem PInv.congr {s s' : CallSt} (h : PInv c N Sup F s) (hs : s'.store = s.store) (hm : s'.memo = s.memo)
    (ho : s'.orc = s.orc) (hi : s'.inputSet = s.inputSet) : PInv c N Sup F s' :=
  ⟨h.sinv.congr hs hm, by rw [ho, hi]; exact h.rest⟩

theorem PInv.set {s : CallSt} (h : PInv c N Sup F s) (v : Vtx) (a : PVal)
    (ha : c.env.assignable a.ty v.ty = true) : PInv c N Sup F (s.set v (some a)) := by
  refine ⟨h.sinv.set v a ha, ?_⟩
  obtain ⟨st, e⟩ := set_frame s v (some a)
  rw [e]
  exact h.rest

/-! ### small facts -/


theorem vertex_ty (l : Label) : l.vertex.ty = l.ty := by
  unfold Label.vertex; split <;> rfl

theorem vertex_kind (l : Label) : l.vertex.isValue = true ∨ l.vertex.isArg = true := by
  unfold Label.vertex; split
  · exact Or.inl rfl
  · exact Or.inr rfl

theorem takenAsIs_of_isSome (htvn : c.takeValuedNamed = true) (s : CallSt) (v : Vtx)
    (hk : v.isValue = true ∨ v.isArg = true) (h : (s.get v).isSome = true) : takenAsIs c s v = true := by
  cases v with
  | value n t x =>
    show (c.takeValuedNamed && (s.get (.value n t x)).isSome) = true
    rw [htvn, h]; rfl
  | arg t x => exact h
  | _ => rcases hk with hk | hk <;> cases hk

theorem no_err {w : WalkSt} (herr : w.err = none) {e : RErr} (h : w.err = some e) : False := by
  rw [herr] at h; cases h

/-! ### callDirect -/

theorem callDirect_missing {f : FuncDesc} {am : ArgMap} {s s' : CallSt} {x : RErr} (ham : AmOK c am)
    (hK : K → ∀ v ∈ f.input.values, (mapGet am v.lab.vertex).isSome = true)
    (h : callDirect c f am s = (.error x, s')) : x = .missingArg ∧ ¬ K := by
  have hstep := callDirect_cases c f am s
  rw [h] at hstep
  cases hstep with
  | argErr _ hg =>
    have hc := gatherArgs_cases c.env f am
    rw [hg] at hc
    cases hc with
    | missing hv hm =>
      refine ⟨rfl, fun hk => ?_⟩
      have := hK hk _ hv
      rw [hm] at this
      cases this
    | notAssignable hv hm ha =>
      have := ham _ _ hm
      rw [vertex_ty, ha] at this
      cases this

theorem callDirect_ok (hN : N → NE c) {f : FuncDesc} {am : ArgMap} {s s2 : CallSt} {r : BehOut} {u : Bool}
    (hs : PInv c N Sup F s) (h : callDirect c f am s = (.ok (r, u), s2)) :
    PInv c N Sup F s2 ∧ (N → r.err = none) := by
  have hstep := callDirect_cases c f am s
  rw [h] at hstep
  cases hstep with
  | hit hm => exact ⟨hs, fun hn => hs.sinv.memo hn _ (mem_of_hit hm)⟩
  | exec hm hg =>
    refine ⟨⟨⟨hs.sinv.typed, hs.sinv.sup, fun hn p hp => ?_⟩, hs.rest⟩, fun hn => hN hn _ _ _⟩
    rcases mem_execMemo hp with hp | ⟨_, rfl⟩
    · exact hs.sinv.memo hn p hp
    · exact hN hn _ _ _

/-! ### outputValues -/

theorem outputValues_spec (hmc : c.memoCopy = true) (f : FuncDesc) (r : BehOut) (u : Bool) (s : CallSt) :
    outputValues c f r u s = .ok ((c.g.ins (.func f.key)).foldl (oStep f r) s) := by
  rw [outputValues_eq]
  simp [hmc]

theorem resultField_ty (f : FuncDesc) (r : BehOut) (idx ty : Nat) (v : Vtx) :
    (resultField f r idx ty v).ty = ty := by
  unfold resultField; split <;> rfl

theorem OutTyped.known {f : FuncDesc} {l : List Vtx} (h : OutTyped f l) : ∀ v ∈ l, OutKnown f v := fun v hv =>
  ⟨fun n t s e => by obtain ⟨sv, hs, _⟩ := (h v hv).1 n t s e; rw [hs]; rfl,
   fun t s e => by obtain ⟨sv, hs, _⟩ := (h v hv).2.1 t s e; rw [hs]; rfl, (h v hv).2.2⟩

/-- an output vertex takes a value of its own type -/
theorem oStep_sinv (f : FuncDesc) (r : BehOut) (s : CallSt) {l : List Vtx} (hl : OutTyped f l) {v : Vtx}
    (hv : v ∈ l) (h : SInv c N Sup s) : SInv c N Sup (oStep f r s v) := by
  obtain ⟨h1, h2, h3⟩ := hl v hv
  unfold oStep
  cases v with
  | value n t u =>
    obtain ⟨sv, hsv, hty⟩ := h1 n t u rfl
    dsimp only; rw [hsv]; dsimp only
    refine h.set _ _ ?_
    rw [resultField_ty, hty]
    exact TypeEnv.assignable_refl _ _
  | out t u =>
    obtain ⟨sv, hsv, hty⟩ := h2 t u rfl
    dsimp only; rw [hsv]; dsimp only
    refine h.set _ _ ?_
    rw [resultField_ty, hty]
    exact TypeEnv.assignable_refl _ _
  | _ => rcases h3 with h | h <;> cases h

theorem oFold_pinv (f : FuncDesc) (r : BehOut) (l : List Vtx) (hl : OutTyped f l) {s : CallSt}
    (h : PInv c N Sup F s) :
    PInv c N Sup F (l.foldl (oStep f r) s) ∧ ∀ v ∈ l, ((l.foldl (oStep f r) s).get v).isSome = true := by
  obtain ⟨st, e⟩ := oFold_frame f r l s
  refine ⟨⟨foldl_inv_mem (SInv c N Sup) _ l (fun t v hv ht => oStep_sinv f r t hl hv ht) s h.sinv, ?_⟩,
    oFold_filled f r l hl.known s⟩
  rw [e]
  exact h.rest

/-! ### one step of the walk -/

def PrevP (c : Ctx) (s : CallSt) (final : Option PVal) : Vtx → Prop
  | .root => True
  | .value n t x =>
    (s.get (.value n t x)).isSome = true ∧ s.last = s.get (.value n t x) ∧ final = s.get (.value n t x)
  | .out t x => (s.get (.out t x)).isSome = true ∧ s.last = s.get (.out t x)
  | .arg t x => (s.get (.arg t x)).isSome = true ∧ final = s.get (.arg t x)
  | .func k => ∀ v ∈ c.g.ins (.func k), (s.get v).isSome = true

/-- the walk has just processed `u` -/
def WInv (c : Ctx) (N : Prop) (Sup : Vtx → Prop) (F : List OrcItem → List Vtx → Prop) (E : RErr → Prop)
    (u : Vtx) (w : WalkSt) : Prop :=
  (∀ e, w.err = some e → E e) ∧
  (w.err = none → PInv c N Sup F w.s ∧ w.prev = some u ∧ PrevP c w.s w.final u)

theorem WInv.of_err {u : Vtx} {w : WalkSt} {e : RErr} (h : w.err = some e) (he : E e) :
    WInv c N Sup F E u w :=
  ⟨fun e' h' => by rw [h] at h'; cases h'; exact he, fun h' => by rw [h] at h'; cases h'⟩

structure FuncOK (c : Ctx) (K : Prop) (I : CallSt → Prop) (E : RErr → Prop)
    (rec : Vtx → CallSt → Except RErr ArgMap × CallSt) (k : Nat) (s : CallSt) : Prop where
  known : c.funcOf k = none → E (.panic .unknownVertex)
  params : K → ∀ f, c.funcOf k = some f → ∀ v ∈ f.input.values, v.lab.vertex ∈ c.g.outs (.func k)
  search : ROut c I E k (rec (.func k) s)

/-- the nested search may assume the invariant, and (P) of the vertex `u` the walk came from -/
def RecOK (c : Ctx) (N K : Prop) (Sup Q : Vtx → Prop) (F : List OrcItem → List Vtx → Prop) (E : RErr → Prop)
    (rec : Vtx → CallSt → Except RErr ArgMap × CallSt) : Prop :=
  ∀ k s fin u, Q (.func k) → PInv c N Sup F s → PrevP c s fin u →
    c.g.hasEdge (.func k) u = true → FuncOK c K (PInv c N Sup F) E rec k s

theorem PInv.write {s : CallSt} (h : PInv c N Sup F s) (v : Vtx) {a : PVal}
    (ha : c.env.assignable a.ty v.ty = true) :
    PInv c N Sup F (s.set v (some a)) ∧ ((s.set v (some a)).get v).isSome = true :=
  ⟨h.set v a ha, by rw [get_set, if_pos rfl]; rfl⟩

/-- Whatever `u` is, `v` ends up holding a value: the one `u` holds, copied (from an out vertex, over an R6 hop)
or taken from `last` (by an argument vertex), or the one it held (`u` the root or a function vertex that has
just written its outputs). -/
theorem winv_data (wf : WalkFacts c N) (rec : Vtx → CallSt → Except RErr ArgMap × CallSt)
    {w : WalkSt} {v u : Vtx} (hw : WInv c N Sup F E u w) (herr : w.err = none)
    (he : c.g.hasEdge v u = true) (hroot : u = .root → v.isFunc = true ∨ Sup v)
    (hv : v.isFunc = false) : WInv c N Sup F E v (walkStep c rec w v) := by
  obtain ⟨hS, hu, hP⟩ := hw.2 herr
  have hrule := wf.edgeOK _ _ he
  have hkind := kindOK_of_rule hrule
  have hty : ∀ a, v.isData = true → u.isData = true → w.s.get u = some a → c.env.assignable a.ty v.ty = true :=
    fun a hvd hud ha => rule_assignable wf.trans hrule hvd hud (hS.sinv.typed u a ha)
  cases v with
  | root => rw [no_edge_from_root wf.edgeOK] at he; cases he
  | func k => cases hv
  | value n t x =>
    rw [walkStep_value c rec herr, hu]
    have key : PInv c N Sup F (valCopy c w.s (some u) (.value n t x)) ∧
        ((valCopy c w.s (some u) (.value n t x)).get (.value n t x)).isSome = true := by
      cases u with
      | root => exact ⟨hS, hS.sinv.sup _ ((hroot rfl).resolve_left nofun)⟩
      | func k => exact ⟨hS, hP _ (AGraph.mem_ins.2 he)⟩
      | arg t' x' => cases hkind
      | out t' x' =>
        obtain ⟨a, ha⟩ := Option.isSome_iff_exists.1 hP.1
        show PInv c N Sup F (w.s.set _ (w.s.get (.out t' x'))) ∧ ((w.s.set _ (w.s.get (.out t' x'))).get _).isSome = true
        rw [ha]
        exact hS.write _ (hty a rfl rfl ha)
      | value n' t' x' =>
        -- there is an R6 edge, so the hop copies
        have hc : c.hopCopies = true := wf.noHop.resolve_right fun h => by rw [h] at he; cases he
        obtain ⟨a, ha⟩ := Option.isSome_iff_exists.1 hP.1
        rw [valCopy_hop_some c _ _ _ _ _ hc ha]
        exact hS.write _ (hty a rfl rfl ha)
    generalize valCopy c w.s (some u) (.value n t x) = s1 at key
    obtain ⟨k1, k2⟩ := key
    obtain ⟨a, ha⟩ := Option.isSome_iff_exists.1 k2
    refine ⟨fun e h => (no_err herr h).elim, fun _ => ⟨k1.congr rfl rfl rfl rfl, rfl, k2, ?_, ?_⟩⟩
    · show (if c.publishAfterUpdate = true then s1.get (.value n t x) else w.s.get (.value n t x)) = s1.get (.value n t x)
      rw [if_pos wf.pub]
    · show (s1.get (.value n t x)).or w.final = s1.get (.value n t x)
      rw [ha]; rfl
  | out t x =>
    rw [walkStep_out c rec herr, hu]
    have key : PInv c N Sup F (copyFrom w.s (some u) (.out t x)) ∧
        ((copyFrom w.s (some u) (.out t x)).get (.out t x)).isSome = true := by
      cases u with
      | root => exact ⟨hS, hS.sinv.sup _ ((hroot rfl).resolve_left nofun)⟩
      | func k => exact ⟨hS, hP _ (AGraph.mem_ins.2 he)⟩
      | value n' t' x' => cases hkind
      | arg t' x' => cases hkind
      | out t' x' =>
        obtain ⟨a, ha⟩ := Option.isSome_iff_exists.1 hP.1
        show PInv c N Sup F (w.s.set _ (w.s.get (.out t' x'))) ∧ ((w.s.set _ (w.s.get (.out t' x'))).get _).isSome = true
        rw [ha]
        exact hS.write _ (hty a rfl rfl ha)
    generalize copyFrom w.s (some u) (.out t x) = s1 at key
    exact ⟨fun e h => (no_err herr h).elim, fun _ => ⟨key.1.congr rfl rfl rfl rfl, rfl, key.2, rfl⟩⟩
  | arg t x =>
    rw [walkStep_arg c rec herr]
    have key : PInv c N Sup F (argStore c w.s t (.arg t x)) ∧
        ((argStore c w.s t (.arg t x)).get (.arg t x)).isSome = true := by
      -- `last` is what a value or out vertex just processed holds
      have fromLast : ∀ a, u.isData = true → w.s.get u = some a → w.s.last = w.s.get u →
          PInv c N Sup F (argStore c w.s t (.arg t x)) ∧
            ((argStore c w.s t (.arg t x)).get (.arg t x)).isSome = true := by
        intro a hud ha hl
        have hta : c.env.assignable a.ty t = true := hty a rfl hud ha
        unfold argStore
        rw [hl, ha]
        dsimp only
        rw [if_pos hta]
        exact hS.write _ hta
      cases u with
      | root =>
        have hsome := hS.sinv.sup _ ((hroot rfl).resolve_left nofun)
        unfold argStore
        split
        · split
          · rename_i hta; exact hS.write _ hta
          · exact ⟨hS, hsome⟩
        · exact ⟨hS, hsome⟩
      | value n' t' x' =>
        obtain ⟨a, ha⟩ := Option.isSome_iff_exists.1 hP.1
        exact fromLast a rfl ha hP.2.1
      | out t' x' =>
        obtain ⟨a, ha⟩ := Option.isSome_iff_exists.1 hP.1
        exact fromLast a rfl ha hP.2
      | arg t' x' => cases hkind
      | func k => cases hkind
    generalize argStore c w.s t (.arg t x) = s1 at key
    exact ⟨fun e h => (no_err herr h).elim, fun _ => ⟨key.1, rfl, key.2, rfl⟩⟩

theorem winv_func (wf : WalkFacts c N) (eo : ErrOK N K E) (rec : Vtx → CallSt → Except RErr ArgMap × CallSt)
    {w : WalkSt} {k : Nat} (herr : w.err = none) (hf : FuncOK c K (PInv c N Sup F) E rec k w.s) :
    WInv c N Sup F E (.func k) (walkStep c rec w (.func k)) := by
  have hstep := walkStep_func c rec herr k
  generalize walkStep c rec w (.func k) = w' at hstep ⊢
  have hr := hf.search
  cases hstep with
  | unknown hfo => exact .of_err rfl (hf.known hfo)
  | recErr hfo hrs => rw [hrs] at hr; exact .of_err rfl (hr.1 _ rfl)
  | cdErr hfo hrs hcs =>
    rw [hrs] at hr
    obtain ⟨ham, _, hcov⟩ := hr.2 _ rfl
    obtain ⟨rfl, hnk⟩ := callDirect_missing (K := K) ham
      (fun hk v hv => hcov _ (hf.params hk _ hfo v hv) (Prune.vertex_ne_root _)) hcs
    exact .of_err rfl (eo.missingArg hnk)
  | funcErr hfo hrs hcs hre =>
    rw [hrs] at hr
    refine .of_err rfl (eo.funcErr _ (fun hn => ?_))
    rw [(callDirect_ok wf.hN (hr.2 _ rfl).2.1 hcs).2 hn] at hre
    cases hre
  | outErr hfo hrs hcs hre hov => rw [outputValues_spec wf.mc] at hov; cases hov
  | @ok f hfo am s1 hrs r unw s2 hcs hre s3 hov =>
    rw [hrs] at hr
    rw [outputValues_spec wf.mc] at hov
    cases hov
    have hkey := wf.funcKey k f hfo
    obtain ⟨h1, h2⟩ := oFold_pinv f r (c.g.ins (.func f.key)) (by rw [hkey]; exact wf.outTyped k f hfo)
      (callDirect_ok wf.hN (hr.2 _ rfl).2.1 hcs).1
    refine ⟨fun e h => (no_err herr h).elim, fun _ => ⟨h1, rfl, ?_⟩⟩
    show ∀ v ∈ c.g.ins (.func k), _
    rw [← hkey]
    exact h2

theorem walkStep_winv (wf : WalkFacts c N) (eo : ErrOK N K E) (rec : Vtx → CallSt → Except RErr ArgMap × CallSt)
    (hrec : RecOK c N K Sup Q F E rec) {w : WalkSt} {v u : Vtx} (hw : WInv c N Sup F E u w)
    (he : c.g.hasEdge v u = true) (hQ : Q v) (hroot : u = .root → v.isFunc = true ∨ Sup v) :
    WInv c N Sup F E v (walkStep c rec w v) := by
  cases herr : w.err with
  | some e => rw [walkStep_err c rec herr]; exact .of_err herr (hw.1 e herr)
  | none =>
    cases v with
    | func k =>
      obtain ⟨hS, _, hP⟩ := hw.2 herr
      exact winv_func wf eo rec herr (hrec k w.s w.final u hQ hS hP he)
    | _ => exact winv_data wf rec hw herr he hroot rfl

/-! ### walking one path -/

theorem walkFold_winv (wf : WalkFacts c N) (eo : ErrOK N K E) (rec : Vtx → CallSt → Except RErr ArgMap × CallSt)
    (hrec : RecOK c N K Sup Q F E rec) (p : List Vtx) (u : Vtx) (w : WalkSt)
    (hw : WInv c N Sup F E u w) (hpath : Chain c.g u p) (hQ : ∀ v ∈ p, Q v)
    (hfirst : u = .root → ∀ v, p.head? = some v → v.isFunc = true ∨ Sup v) :
    ∀ l, (u :: p).getLast? = some l → WInv c N Sup F E l (p.foldl (walkStep c rec) w) := by
  induction p generalizing u w with
  | nil =>
    intro l hl
    cases hl
    exact hw
  | cons v rest ih =>
    intro l hl
    rw [List.getLast?_cons_cons] at hl
    refine ih v _ (walkStep_winv wf eo rec hrec hw hpath.1 (hQ v List.mem_cons_self) (fun h => hfirst h v rfl))
      hpath.2 (fun x hx => hQ x (List.mem_cons_of_mem _ hx)) (fun h => ?_) l hl
    -- the vertex just processed has an out-edge, so it is not the root
    have := hpath.1
    rw [h, no_edge_from_root wf.edgeOK] at this
    cases this

/-! ### walking all paths -/

theorem walkPath_good (wf : WalkFacts c N) (eo : ErrOK N K E) (rec : Vtx → CallSt → Except RErr ArgMap × CallSt)
    (hrec : RecOK c N K Sup Q F E rec) {p : List Vtx} (hp : GoodPath c (fun v => v.isFunc = true ∨ Sup v) Q p) (s : CallSt)
    (hs : PInv c N Sup F s) :
    (∀ e, (walkPath c rec s p).err = some e → E e) ∧
    ((walkPath c rec s p).err = none → PInv c N Sup F (walkPath c rec s p).s ∧
      ∃ x l, (walkPath c rec s p).final = some x ∧ p.getLast? = some l ∧
        c.env.assignable x.ty l.ty = true) := by
  obtain ⟨tl, rfl, hchain, hQ, hfirst, ⟨l, hl, hkind⟩⟩ := hp
  have hlast : (Vtx.root :: tl).getLast? = some l := by
    cases tl with
    | nil => cases hl
    | cons a tl' => rw [List.getLast?_cons_cons]; exact hl
  have hfold := walkFold_winv wf eo rec hrec tl .root { s := s, final := none, prev := some .root, err := none }
    ⟨nofun, fun _ => ⟨hs, rfl, trivial⟩⟩ hchain hQ (fun _ => hfirst) l hlast
  rw [walkPath_root]
  generalize tl.foldl (walkStep c rec) { s := s, final := none, prev := some .root, err := none } = w at hfold
  refine ⟨hfold.1, fun herr => ?_⟩
  obtain ⟨hS, _, hP⟩ := hfold.2 herr
  have hfin : w.final = w.s.get l ∧ (w.s.get l).isSome = true := by
    cases l with
    | value n t x => exact ⟨hP.2.2, hP.1⟩
    | arg t x => exact ⟨hP.2, hP.1⟩
    | root => rcases hkind with h | h <;> cases h
    | out t x => rcases hkind with h | h <;> cases h
    | func k => rcases hkind with h | h <;> cases h
  obtain ⟨x, hx⟩ := Option.isSome_iff_exists.1 hfin.2
  exact ⟨hS, x, l, hfin.1.trans hx, hlast, hS.sinv.typed _ _ hx⟩

theorem walkPaths_good (wf : WalkFacts c N) (eo : ErrOK N K E) (rec : Vtx → CallSt → Except RErr ArgMap × CallSt)
    (hrec : RecOK c N K Sup Q F E rec) (paths : List (List Vtx)) (hp : ∀ p ∈ paths, GoodPath c (fun v => v.isFunc = true ∨ Sup v) Q p)
    (am : ArgMap) (s : CallSt) (hs : PInv c N Sup F s) (ham : AmOK c am) :
    PathsOut (AmOK c) (PInv c N Sup F) E paths am (walkPaths c rec paths am s) :=
  walkPaths_out (R := fun l x => c.env.assignable x.ty l.ty = true) (fun _ _ _ ham h => ham.set h) rec paths
    (fun p hpp s hs => walkPath_good wf eo rec hrec (hp p hpp) s hs) am s hs ham

/-! ### `reach` -/

/-- Up to the walk `reach` changes only the oracle and the input set, of which `CInv` says nothing. -/
theorem reach_step (wf : WalkFacts c N) (eo : ErrOK N K E)
    (htoRoot : ∀ x, c.g.hasEdge x .root = true → x.isFunc = true ∨ Sup x)
    {m : Nat} {reaching : List Vtx} {k : Nat} {s : CallSt} (hs : CInv c N Sup s)
    (hrec : RecOK c N K Sup Q (fun _ _ => True) E (fun v st => reach c false m (.func k :: reaching) v st))
    (hun : ∀ item st, ItemOK c s (.func k) item →
      (plan c false reaching (.func k) item st).unsat.isEmpty = false →
      E (.unsat (plan c false reaching (.func k) item st).unsat))
    (hpaths : ∀ item, ItemOK c s (.func k) item → ∀ cp ∈ item.missing.zip item.paths, ∀ v ∈ cp.2, Q v) :
    ROut c (CInv c N Sup) E k (reach c false (m + 1) reaching (.func k) s) := by
  have hfr : ∀ ins orc, CInv c N Sup { s with inputSet := ins, orc := orc } :=
    fun _ _ => ⟨hs.sinv.congr rfl rfl, trivial⟩
  have hstep := reach_succ c false m reaching (.func k) s
  generalize reach c false (m + 1) reaching (.func k) s = r at hstep ⊢
  cases hstep with
  | badOracle w orc => exact .error (eo.badOracle w) _
  | nothingMissing item rest hi hm =>
    obtain ⟨ins, h1⟩ := afterSkip_frame c s (.func k)
    rw [h1]
    exact .nothingMissing hm hs.sinv.typed (hfr ins rest)
  | unsat item rest hi ok hu => exact .error (hun item _ ok hu) _
  | walk item rest hi ok hu =>
    obtain ⟨ins', h2⟩ := planned_frame c reaching (.func k) item s rest
    exact .of_paths ok (walkPaths_good wf eo _ hrec item.paths (.of_item wf.edgeOK ok (hpaths item ok) htoRoot) _ _
      (by rw [h2]; exact hfr ins' rest) (.am0 hs.sinv.typed _))

/-! ### `callWith` -/

theorem callWith_of_ROut (hN : N → NE c) {cgr : CallGraphResult} {target : FuncDesc} {fuel : Nat} {s0 : CallSt}
    (htv : cgr.target = .func target.key)
    (hr : cgr.unsat = [] →
      ROut c (PInv c N Sup F) E target.key (reach c false fuel [] (.func target.key) s0))
    (hpar : K → cgr.unsat = [] → ∀ v ∈ target.input.values, v.lab.vertex ∈ c.g.outs (.func target.key)) :
    (∃ res, (callWith c cgr target fuel s0).1 = .ok res) ∨
    ((∃ ε res, (callWith c cgr target fuel s0).1 = .targetErr ε res) ∧ ¬ N) ∨
    ((callWith c cgr target fuel s0).1 = .missingArg ∧ ¬ K) ∨
    (cgr.unsat ≠ [] ∧ (callWith c cgr target fuel s0).1 = .unsat cgr.unsat true) ∨
    ∃ e, E e ∧ (callWith c cgr target fuel s0).1 = outcomeOfErr e := by
  have hstep := callWith_cases c cgr target fuel s0
  generalize callWith c cgr target fuel s0 = o at hstep ⊢
  cases hstep with
  | graphUnsat hu => exact .inr (.inr (.inr (.inl ⟨fun h => (by rw [h] at hu; cases hu), rfl⟩)))
  | reachErr hu hre =>
    have h := hr hu
    rw [htv] at hre
    rw [hre] at h
    exact .inr (.inr (.inr (.inr ⟨_, h.1 _ rfl, rfl⟩)))
  | directErr hu hre hc =>
    have h := hr hu
    rw [htv] at hre
    rw [hre] at h
    obtain ⟨ham, _, hcov⟩ := h.2 _ rfl
    obtain ⟨rfl, hnk⟩ := callDirect_missing (K := K) ham
      (fun hk v hv => hcov _ (hpar hk hu v hv) (Prune.vertex_ne_root _)) hc
    exact .inr (.inr (.inl ⟨rfl, hnk⟩))
  | @executed hu am s hre r unw s2 hc =>
    have h := hr hu
    rw [htv] at hre
    rw [hre] at h
    have hne := (callDirect_ok hN (h.2 _ rfl).2.1 hc).2
    cases he : r.err with
    | none => exact .inl ⟨r, rfl⟩
    | some ε => exact .inr (.inl ⟨⟨ε, r, rfl⟩, fun hn => by rw [hne hn] at he; cases he⟩)

theorem callWith_allowed (hN : N → NE c) {cgr : CallGraphResult} {target : FuncDesc} {fuel : Nat} {s0 : CallSt}
    (htv : cgr.target = .func target.key) (hunsat : cgr.unsat = [])
    (hr : ROut c (PInv c N Sup F) (Allowed N) target.key (reach c false fuel [] (.func target.key) s0))
    (hpar : ∀ v ∈ target.input.values, v.lab.vertex ∈ c.g.outs (.func target.key)) :
    (∃ res, (callWith c cgr target fuel s0).1 = .ok res) ∨
    ((∃ ε, (callWith c cgr target fuel s0).1 = .convErr ε) ∧ ¬ N) ∨
    ((∃ ε res, (callWith c cgr target fuel s0).1 = .targetErr ε res) ∧ ¬ N) ∨
    (∃ w, (callWith c cgr target fuel s0).1 = .badOracle w) := by
  rcases callWith_of_ROut (K := True) hN htv (fun _ => hr) (fun _ _ => hpar) with
    h | h | ⟨_, hk⟩ | ⟨hne, _⟩ | ⟨e, he, h⟩
  · exact .inl h
  · exact .inr (.inr (.inl h))
  · exact (hk trivial).elim
  · exact absurd hunsat hne
  · rcases he with ⟨w, rfl⟩ | ⟨⟨ε, rfl⟩, hn⟩
    · exact .inr (.inr (.inr ⟨w, h⟩))
    · exact .inr (.inl ⟨⟨ε, h⟩, hn⟩)

end ArgMapper.Complete
