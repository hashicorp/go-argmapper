import ArgMapper.Proofs.MemoLog
import ArgMapper.Proofs.Args
/-!
# Run-once functions (helper lemmas for C11)

Two predicates on (memo table, log), both closed in the sense of `MemoLog.Closed`:
`Good fid`: the log holds at most one execution of `fid`, and every execution of `fid` in the log has its
result stored in the memo cell of `fid`; `Has fid`, the converse of the second half: the cell of `fid` is
filled only if an execution of `fid` is in the log.
-/
namespace ArgMapper.Once
open ArgMapper ArgMapper.MemoLog

def Good (fid : Nat) (memo : List (Nat × Memo)) (log : List ExecEv) : Prop :=
  (log.filter (fun e => e.fid == fid)).length ≤ 1 ∧
  ∀ ev ∈ log, ev.fid = fid → ∃ m, mapGet memo fid = some m ∧ m.res = ev.res

def Has (fid : Nat) (memo : List (Nat × Memo)) (log : List ExecEv) : Prop :=
  mapGet memo fid = none ∨ ∃ ev ∈ log, ev.fid = fid

theorem Good_nil (fid : Nat) : Good fid [] [] := by
  refine ⟨by simp, ?_⟩
  intro ev h; cases h

theorem Has_nil (fid : Nat) : Has fid [] [] := Or.inl rfl

theorem filter_nil_of_none {fid : Nat} {memo : List (Nat × Memo)} {log : List ExecEv}
    (hg : Good fid memo log) (hn : mapGet memo fid = none) :
    log.filter (fun e => e.fid == fid) = [] := by
  rw [List.filter_eq_nil_iff]
  intro ev hev hfid
  simp only [beq_iff_eq] at hfid
  obtain ⟨m, hm, _⟩ := hg.2 ev hev hfid
  rw [hn] at hm; cases hm

theorem mapGet_map_unwrap (memo : List (Nat × Memo)) (k fid : Nat) :
    mapGet (memo.map (fun p => if p.1 = k then (p.1, { p.2 with unwrapped := true }) else p)) fid =
      (mapGet memo fid).map (fun m => if fid = k then { m with unwrapped := true } else m) := by
  unfold mapGet
  rw [List.find?_map]
  have hcomp : ((fun p : Nat × Memo => decide (p.1 = fid)) ∘
      (fun p : Nat × Memo => if p.1 = k then (p.1, { p.2 with unwrapped := true }) else p)) =
      fun p => decide (p.1 = fid) := by
    funext p
    simp only [Function.comp]
    split <;> rfl
  rw [hcomp]
  cases hfind : memo.find? (fun p => decide (p.1 = fid)) with
  | none => rfl
  | some a =>
    have ha := List.find?_some hfind
    simp only [decide_eq_true_eq] at ha
    subst ha
    simp only [Option.map_some]
    by_cases h2 : a.1 = k
    · rw [if_pos h2, if_pos h2]
    · rw [if_neg h2, if_neg h2]

theorem mapGet_exec_ne {memo : List (Nat × Memo)} {f : FuncDesc} {fid : Nat} (hid : f.id ≠ fid) (m : Memo) :
    mapGet (if f.once = true then mapSet memo f.id m else memo) fid = mapGet memo fid := by
  split
  · rw [mapGet_mapSet, if_neg (fun h => hid h.symm)]
  · rfl

def OnceIn (c : Ctx) (target : FuncDesc) (fid : Nat) : Prop :=
  (target.id = fid → target.once = true) ∧ ∀ k f, c.funcOf k = some f → f.id = fid → f.once = true

theorem good_closed {c : Ctx} {target : FuncDesc} {fid : Nat} (ho : OnceIn c target fid) :
    Closed c target (Good fid) where
  exec f hf memo log n args hmiss hg := by
    by_cases hid : f.id = fid
    · -- the first execution of `fid`: its cell was empty, so the log held none
      have honce : f.once = true := by
        rcases hf with rfl | ⟨k, hk⟩
        · exact ho.1 hid
        · exact ho.2 k f hk hid
      rw [honce, if_pos rfl, hid] at hmiss
      have hnil := filter_nil_of_none hg hmiss
      simp only [honce, if_true]
      constructor
      · rw [List.filter_append, hnil, List.nil_append]
        exact List.length_filter_le _ [_]
      · intro ev' hev hevf
        rcases List.mem_append.1 hev with h | h
        · have : ev' ∈ log.filter (fun e => e.fid == fid) := List.mem_filter.2 ⟨h, by simp [hevf]⟩
          rw [hnil] at this; cases this
        · rw [List.mem_singleton.1 h]
          exact ⟨_, by rw [mapGet_mapSet, if_pos hid.symm], rfl⟩
    · unfold Good
      rw [mapGet_exec_ne hid]
      constructor
      · rw [List.filter_append]
        have : [({ fid := f.id, nth := n, args := args, params := f.input.labels, res := c.beh f.id n args } : ExecEv)].filter
            (fun e => e.fid == fid) = [] := by simp [hid]
        rw [this, List.append_nil]; exact hg.1
      · intro ev' hev hevf
        rcases List.mem_append.1 hev with h | h
        · exact hg.2 ev' h hevf
        · rw [List.mem_singleton.1 h] at hevf
          exact absurd hevf hid
  unwrap k memo log h := by
    refine ⟨h.1, fun ev hev hf => ?_⟩
    obtain ⟨m, hm, hr⟩ := h.2 ev hev hf
    rw [mapGet_map_unwrap, hm]
    refine ⟨_, rfl, ?_⟩
    split <;> exact hr

theorem has_closed (c : Ctx) (target : FuncDesc) (fid : Nat) : Closed c target (Has fid) where
  exec f _ memo log n args _ hg := by
    by_cases hid : f.id = fid
    · exact Or.inr ⟨_, List.mem_append_right _ (List.mem_singleton.2 rfl), hid⟩
    · unfold Has
      rw [mapGet_exec_ne hid]
      rcases hg with hg | ⟨e, he, hef⟩
      · exact Or.inl hg
      · exact Or.inr ⟨e, List.mem_append_left _ he, hef⟩
  unwrap k memo log h := by
    rcases h with h | h
    · left; rw [mapGet_map_unwrap, h]; rfl
    · exact Or.inr h

/-! ### histories with Redefines -/

def OnceOps (ops : List HistOp) (fid : Nat) : Prop :=
  ∀ op ∈ ops, match op with
    | .call c _ t _ => OnceIn c t fid
    | .redefine .. => True

theorem runHist_good (fuel : Nat) (fid : Nat) (ops : List HistOp) (hops : OnceOps ops fid) :
    Good fid (runHist fuel {} ops).1.memo (obsLog (runHist fuel {} ops).2) := by
  refine runHist_closed fuel ops (fun op hop => ?_) {} [] (Good_nil fid)
  have := hops op hop
  cases op with
  | call c cgr t orc => exact good_closed this
  | redefine => trivial

theorem runHist_has (fuel : Nat) (fid : Nat) (ops : List HistOp) :
    Has fid (runHist fuel {} ops).1.memo (obsLog (runHist fuel {} ops).2) := by
  refine runHist_closed fuel ops (fun op _ => ?_) {} [] (Has_nil fid)
  cases op with
  | call c cgr t orc => exact has_closed c t fid
  | redefine => trivial

end ArgMapper.Once
