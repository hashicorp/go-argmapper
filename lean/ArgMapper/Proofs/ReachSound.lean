import ArgMapper.Proofs.ExecEqs
import ArgMapper.Proofs.SearchOut
/-!
# Soundness of `reach` with respect to value flow (helper lemmas for C01 and C02, dynamic part)

Every value in flight carries a ghost origin.  `ValOK g O x a`: the origin of `a` is one of the admissible
origins `O`, and `a` can flow (vertex-to-vertex copies along edges) to the vertex `x`.  The invariant `Inv`
says so of every stored value and of every argument of a logged execution, and that only functions that
`MayRun` (an allowed id `T`, outputs at admissible origins) have run or fill a run-once cell.  The walk
preserves it, and every argument map handed to `callDirect` satisfies it too (`AmOK`).

With every origin vertex admissible and every id allowed this is C01's `ArgsFlow` of every logged execution;
with the derivable origins admissible and the target's id forbidden it is C02.
-/
namespace ArgMapper.C01

/-- what an executed function received, in terms of flow in a concrete graph (what the dynamic part proves) -/
def ArgsFlow (g : AGraph Vtx) (ev : ExecEv) : Prop :=
  ev.args.length = ev.params.length ∧
  ∀ (i : Nat) (p : Label) (a : PVal), ev.params[i]? = some p → ev.args[i]? = some a →
    a.org.isOrigin = true ∧ Flow g a.org p.vertex

def StoreOK (g : AGraph Vtx) (s : CallSt) : Prop :=
  ∀ x v, s.get x = some v → v.org.isOrigin = true ∧ Flow g v.org x

/-- the function object of every function vertex knows the outputs that hang off that vertex: true of graphs
built by `callGraph`, whose output edges are created from that very output set -/
def FuncsOK (c : Ctx) : Prop :=
  ∀ k f, c.funcOf k = some f →
    f.key = k ∧
    ∀ v ∈ c.g.ins (.func k),
      (∀ n t s, v = .value n t s → (mapGet f.output.named n).isSome = true) ∧
      (∀ t s, v = .out t s → (mapGet f.output.typed t).isSome = true) ∧
      (v.isValue = true ∨ v.isOut = true)

end ArgMapper.C01

namespace ArgMapper.ReachSound
open ArgMapper WalkEqs ReachEqs ExecEqs


/-! ### the store -/

theorem isData_of_isOrigin {v : Vtx} (h : v.isOrigin = true) : v.isData = true := by
  cases v <;> first | rfl | exact h

/-! ### invariants -/

def ValOK (g : AGraph Vtx) (O : Vtx → Prop) (x : Vtx) (a : PVal) : Prop := O a.org ∧ Flow g a.org x

theorem ValOK.step {g : AGraph Vtx} {O : Vtx → Prop} {x y : Vtx} {a : PVal} (h : ValOK g O y a)
    (hx : x.isData = true) (he : g.hasEdge x y = true) : ValOK g O x a := ⟨h.1, Flow.step hx he h.2⟩

def AmOK (g : AGraph Vtx) (O : Vtx → Prop) (am : ArgMap) : Prop := ∀ x a, mapGet am x = some a → ValOK g O x a

def EvOK (g : AGraph Vtx) (O : Vtx → Prop) (ev : ExecEv) : Prop :=
  ev.args.length = ev.params.length ∧
  ∀ (i : Nat) (p : Label) (a : PVal), ev.params[i]? = some p → ev.args[i]? = some a → ValOK g O p.vertex a

def MayRun (c : Ctx) (O : Vtx → Prop) (T : Nat → Prop) (f : FuncDesc) : Prop :=
  T f.id ∧ ∀ v ∈ c.g.ins (.func f.key), O v

/-- `F`: the function objects a call can reach -/
structure Hyp (c : Ctx) (O : Vtx → Prop) (T : Nat → Prop) (F : FuncDesc → Prop) : Prop where
  funcOf : ∀ k f, c.funcOf k = some f → F f
  /-- a function whose argument struct could be populated from sound arguments may run -/
  exec : ∀ f, F f → ∀ am args, AmOK c.g O am → gatherArgs c.env f am = .ok args → MayRun c O T f
  /-- run-once functions sharing a memo cell may run together: the second is served the first's result -/
  share : ∀ f g, F f → F g → f.once = true → g.once = true → f.id = g.id → MayRun c O T f → MayRun c O T g

structure Inv (c : Ctx) (O : Vtx → Prop) (T : Nat → Prop) (F : FuncDesc → Prop) (s : CallSt) : Prop where
  store : ∀ x v, s.get x = some v → ValOK c.g O x v
  memo : ∀ p ∈ s.memo, ∀ g, F g → g.once = true → g.id = p.1 → MayRun c O T g
  log : ∀ ev ∈ s.log, EvOK c.g O ev ∧ T ev.fid

section Sound
variable {c : Ctx} {O : Vtx → Prop} {T : Nat → Prop} {F : FuncDesc → Prop}

theorem Inv.set {s : CallSt} (h : Inv c O T F s) (v : Vtx) (x : Option PVal)
    (hx : ∀ a, x = some a → ValOK c.g O v a) : Inv c O T F (s.set v x) := by
  obtain ⟨st, hst⟩ := set_frame s v x
  refine ⟨fun u a ha => ?_, by rw [hst]; exact h.memo, by rw [hst]; exact h.log⟩
  rw [get_set] at ha
  split at ha
  · rename_i huv; subst huv; exact hx a ha
  · exact h.store u a ha

/-! ### callDirect -/

theorem gatherArgs_flow (g : AGraph Vtx) (e : TypeEnv) (f : FuncDesc) (am : ArgMap) (ham : AmOK g O am)
    (args : List PVal) (h : gatherArgs e f am = .ok args) (fid nth : Nat) (res : BehOut) :
    EvOK g O { fid := fid, nth := nth, args := args, params := f.input.labels, res := res } := by
  obtain ⟨rfl, hall⟩ := gatherArgs_eq_ok h
  refine ⟨by simp [ValueSet.labels], ?_⟩
  intro i p a hp ha
  simp only [ValueSet.labels, List.getElem?_map] at hp ha
  cases hv : f.input.values[i]? with
  | none => simp [hv] at hp
  | some v =>
    simp only [hv, Option.map_some, Option.some.injEq] at hp ha
    subst hp; subst ha
    obtain ⟨a0, hm, _⟩ := hall v (List.mem_of_getElem? hv)
    rw [argOf_of_get hm]
    exact (ham _ _ hm : ValOK g O _ a0)

theorem callDirect_inv (H : Hyp c O T F) {f : FuncDesc} (hF : F f) {am : ArgMap} {s : CallSt}
    (h : Inv c O T F s) (ham : AmOK c.g O am) :
    Inv c O T F (callDirect c f am s).2 ∧ ∀ r u, (callDirect c f am s).1 = .ok (r, u) → MayRun c O T f := by
  have hd := callDirect_cases c f am s
  generalize callDirect c f am s = res at hd ⊢
  cases hd with
  | hit hm =>
    exact ⟨h, fun _ _ _ => h.memo _ (mem_of_hit hm) f hF (of_hit hm).1 rfl⟩
  | argErr _ _ => exact ⟨h, nofun⟩
  | @exec _ args hargs =>
    have hrun := H.exec f hF am args ham hargs
    refine ⟨⟨h.store, fun p hp g hg hgo hgid => ?_, fun ev hev => ?_⟩, fun _ _ _ => hrun⟩
    · rcases mem_execMemo hp with hp | ⟨ho, rfl⟩
      · exact h.memo p hp g hg hgo hgid
      · exact H.share f g hF hg ho hgo hgid.symm hrun
    · rcases List.mem_append.1 hev with h' | h'
      · exact h.log ev h'
      · rw [List.mem_singleton.1 h']
        exact ⟨gatherArgs_flow c.g c.env f am ham args hargs _ _ _, hrun.1⟩

/-! ### outputValues -/

theorem resultField_org (f : FuncDesc) (r : BehOut) (idx ty : Nat) (v : Vtx) :
    (resultField f r idx ty v).org = v := by
  unfold resultField; split <;> rfl

theorem oStep_inv (f : FuncDesc) (r : BehOut) (s : CallSt) (v : Vtx) (hO : O v) (hd : v.isData = true)
    (h : Inv c O T F s) : Inv c O T F (oStep f r s v) := by
  rcases oStep_cases f r s v with h1 | ⟨sv, _, h1⟩ <;> rw [h1]
  · exact h
  · apply h.set
    intro a ha
    cases ha
    rw [ValOK, resultField_org]
    exact ⟨hO, Flow.here hd⟩

theorem outputValues_inv (f : FuncDesc) (r : BehOut) (u : Bool) (s s' : CallSt)
    (hl : ∀ v ∈ c.g.ins (.func f.key), OutKnown f v) (hO : ∀ v ∈ c.g.ins (.func f.key), O v) (h : Inv c O T F s)
    (ho : outputValues c f r u s = .ok s') :
    Inv c O T F s' ∧ ∀ v ∈ c.g.ins (.func f.key), (s'.get v).isSome = true := by
  rw [outputValues_fold ho]
  have h0 : Inv c O T F (unwrapSt c f s) := by
    rcases unwrapSt_cases c f s with h1 | h1 <;> rw [h1]
    · exact h
    · refine ⟨h.store, fun p hp => ?_, h.log⟩
      obtain ⟨q, hq, rfl⟩ := List.mem_map.1 hp
      have := h.memo q hq
      split <;> exact this
  refine ⟨foldl_inv_mem (Inv c O T F) _ _ (fun t v hv ht => oStep_inv f r t v (hO v hv) ?_ ht) _ h0,
    oFold_filled f r _ hl _⟩
  rcases (hl v hv).2.2 with h | h <;> cases v <;> first | rfl | cases h

/-! ### one step of the walk -/

def PrevInv (c : Ctx) (O : Vtx → Prop) (s : CallSt) (final : Option PVal) : Vtx → Prop
  | .root => final = none
  | .value n t u =>
    (∀ f, final = some f → ValOK c.g O (.value n t u) f) ∧ (∀ l, s.last = some l → ValOK c.g O (.value n t u) l)
  | .arg t u => ∀ f, final = some f → ValOK c.g O (.arg t u) f
  | .out t u =>
    ((s.get (.out t u)).isSome = true ∨ final = none) ∧ (∀ l, s.last = some l → ValOK c.g O (.out t u) l)
  | .func k => ∀ v ∈ c.g.ins (.func k), (s.get v).isSome = true

/-- the walk has just processed `u` -/
def WInv (c : Ctx) (O : Vtx → Prop) (T : Nat → Prop) (F : FuncDesc → Prop) (u : Vtx) (w : WalkSt) : Prop :=
  Inv c O T F w.s ∧ (w.err = none → w.prev = some u ∧ PrevInv c O w.s w.final u)

def RecSound (c : Ctx) (O : Vtx → Prop) (T : Nat → Prop) (F : FuncDesc → Prop)
    (rec : Vtx → CallSt → Except RErr ArgMap × CallSt) : Prop :=
  ∀ k s, Inv c O T F s → Inv c O T F (rec (.func k) s).2 ∧ ∀ am, (rec (.func k) s).1 = .ok am → AmOK c.g O am

theorem copyFrom_inv (s : CallSt) (u v : Vtx) (h : Inv c O T F s) (hv : v.isData = true)
    (he : c.g.hasEdge v u = true) : Inv c O T F (copyFrom s (some u) v) := by
  cases u with
  | out t st => exact h.set _ _ fun a ha => (h.store _ _ ha).step hv he
  | _ => exact h

theorem valCopy_inv (s : CallSt) (u v : Vtx) (h : Inv c O T F s) (hv : v.isData = true)
    (he : c.g.hasEdge v u = true) : Inv c O T F (valCopy c s (some u) v) := by
  rcases valCopy_cases c s (some u) v with h1 | ⟨n, t, st, x, hp, _, hg, h1⟩ <;> rw [h1]
  · exact copyFrom_inv s u v h hv he
  · cases hp
    exact h.set _ _ fun a ha => by cases ha; exact (h.store _ _ hg).step hv he

theorem copyFrom_get_out (s : CallSt) (t : Nat) (st : String) (v : Vtx) :
    (copyFrom s (some (.out t st)) v).get v = s.get (.out t st) := by
  show (s.set v (s.get (.out t st))).get v = _
  rw [get_set, if_pos rfl]

theorem argStore_inv (s : CallSt) (t : Nat) (v : Vtx) (h : Inv c O T F s)
    (hl : ∀ x, s.last = some x → ValOK c.g O v x) : Inv c O T F (argStore c s t v) := by
  unfold argStore
  split
  · rename_i x hx
    split
    · exact h.set _ _ fun a ha => by cases ha; exact hl _ hx
    · exact h
  · exact h

/-- `hstart`: a typed argument does not follow the root.  The rules leave these pairs: a value vertex follows
the root, a function, an out or (R6) a value vertex; an out vertex the root, a function or an out vertex; an
argument vertex a value or an out vertex. -/
theorem walkStep_inv (H : Hyp c O T F) (hg : EdgeOK c.env c.g) (hf : C01.FuncsOK c)
    (rec : Vtx → CallSt → Except RErr ArgMap × CallSt) (hrec : RecSound c O T F rec) {w : WalkSt} {v u : Vtx}
    (hw : WInv c O T F u w) (he : c.g.hasEdge v u = true) (hstart : u = .root → v.isArg = false) :
    WInv c O T F v (walkStep c rec w v) := by
  cases herr : w.err with
  | some e => rw [walkStep_err c rec herr]; exact ⟨hw.1, fun h => by rw [herr] at h; cases h⟩
  | none =>
    obtain ⟨hu, hP⟩ := hw.2 herr
    have hkind := kindOK_of_rule (hg _ _ he)
    cases v with
    | root => rw [no_edge_from_root hg] at he; cases he
    | value n t x =>
      rw [walkStep_value c rec herr, hu]
      have hi1 : Inv c O T F (valCopy c w.s (some u) (.value n t x)) := valCopy_inv _ _ _ hw.1 rfl he
      refine ⟨⟨hi1.store, hi1.memo, hi1.log⟩, fun _ => ⟨rfl, fun f hfin => ?_, fun l hl => ?_⟩⟩
      · cases hget : (valCopy c w.s (some u) (.value n t x)).get (.value n t x) with
        | some y =>
          rw [hget] at hfin
          cases hfin
          exact hi1.store _ _ hget
        | none =>
          -- the vertex holds nothing, so `final` is the one that came with `u`: there is none, or it moves on
          -- along the edge; an out or function vertex that set no `final` aside would have filled the vertex
          rw [hget] at hfin
          replace hfin : w.final = some f := hfin
          cases u with
          | root => rw [show w.final = none from hP] at hfin; cases hfin
          | value n' t' x' => exact (hP.1 f hfin).step rfl he
          | arg t' x' => cases hkind
          | out t' x' =>
            rw [valCopy_out, copyFrom_get_out] at hget
            rcases hP.1 with h | h
            · rw [hget] at h; cases h
            · rw [h] at hfin; cases hfin
          | func k =>
            have := hP _ (AGraph.mem_ins.2 he)
            rw [show valCopy c w.s (some (Vtx.func k)) (Vtx.value n t x) = w.s from rfl] at hget
            rw [hget] at this; cases this
      · dsimp only at hl
        split at hl
        · exact hi1.store _ _ hl
        · exact hw.1.store _ _ hl
    | arg t x =>
      rw [walkStep_arg c rec herr]
      have hi1 : Inv c O T F (argStore c w.s t (.arg t x)) := by
        refine argStore_inv _ _ _ hw.1 fun y hy => ?_
        -- `last` was set at `u`, a value or out vertex
        cases u with
        | root => cases hstart rfl
        | value n' t' x' => exact (hP.2 y hy).step rfl he
        | out t' x' => exact (hP.2 y hy).step rfl he
        | arg t' x' => cases hkind
        | func k => cases hkind
      exact ⟨hi1, fun _ => ⟨rfl, fun f hfin => hi1.store _ _ hfin⟩⟩
    | out t x =>
      rw [walkStep_out c rec herr, hu]
      have hi1 : Inv c O T F (copyFrom w.s (some u) (.out t x)) := copyFrom_inv _ _ _ hw.1 rfl he
      refine ⟨⟨hi1.store, hi1.memo, hi1.log⟩, fun _ => ⟨rfl, ?_, fun l hl => hi1.store _ _ hl⟩⟩
      show ((copyFrom w.s (some u) (.out t x)).get (.out t x)).isSome = true ∨ w.final = none
      cases u with
      | root => exact Or.inr hP
      | value n' t' x' => cases hkind
      | arg t' x' => cases hkind
      | out t' x' => rw [copyFrom_get_out]; exact hP.1
      | func k => exact Or.inl (hP _ (AGraph.mem_ins.2 he))
    | func k =>
      have hr := hrec k w.s hw.1
      have cd : ∀ {f am s1 res s2}, c.funcOf k = some f → rec (.func k) w.s = (.ok am, s1) →
          callDirect c f am s1 = (res, s2) →
          Inv c O T F s2 ∧ ∀ r u, res = .ok (r, u) → MayRun c O T f := by
        intro f am s1 res s2 hfo hrs hcs
        rw [hrs] at hr
        have := callDirect_inv H (H.funcOf k f hfo) hr.1 (hr.2 am rfl)
        rwa [hcs] at this
      have hstep := walkStep_func c rec herr k
      generalize walkStep c rec w (.func k) = w' at hstep ⊢
      cases hstep with
      | unknown hfo => exact ⟨hw.1, nofun⟩
      | recErr hfo hrs => rw [hrs] at hr; exact ⟨hr.1, nofun⟩
      | cdErr hfo hrs hcs => exact ⟨(cd hfo hrs hcs).1, nofun⟩
      | funcErr hfo hrs hcs _ => exact ⟨(cd hfo hrs hcs).1, nofun⟩
      | outErr hfo hrs hcs _ _ => exact ⟨(cd hfo hrs hcs).1, nofun⟩
      | @ok f hfo _ _ hrs r unw _ hcs _ _ hov =>
        obtain ⟨hkey, houts⟩ := hf k f hfo
        obtain ⟨h2, hrun⟩ := cd hfo hrs hcs
        have := outputValues_inv f r unw _ _ (by rw [hkey]; exact houts) (hrun r unw rfl).2 h2 hov
        refine ⟨this.1, fun _ => ⟨rfl, ?_⟩⟩
        show ∀ v ∈ c.g.ins (.func k), _
        rw [← hkey]; exact this.2

/-! ### walking one path -/

theorem walkFold_inv (H : Hyp c O T F) (hg : EdgeOK c.env c.g) (hf : C01.FuncsOK c)
    (rec : Vtx → CallSt → Except RErr ArgMap × CallSt) (hrec : RecSound c O T F rec) (p : List Vtx) (u : Vtx)
    (w : WalkSt) (hw : WInv c O T F u w) (hpath : Complete.Chain c.g u p)
    (hstart : u = .root → ∀ v, p.head? = some v → v.isArg = false) :
    ∀ l, (u :: p).getLast? = some l → WInv c O T F l (p.foldl (walkStep c rec) w) := by
  induction p generalizing u w with
  | nil =>
    intro l hl
    cases hl
    exact hw
  | cons v rest ih =>
    intro l hl
    rw [List.getLast?_cons_cons] at hl
    refine ih v _ (walkStep_inv H hg hf rec hrec hw hpath.1 (fun h => hstart h v rfl)) hpath.2 (fun h => ?_) l hl
    -- the vertex just processed has an out-edge, so it is not the root
    have := hpath.1
    rw [h, no_edge_from_root hg] at this
    cases this

/-- a path the walk follows: its vertex after the root is no typed argument -/
abbrev PathOK (c : Ctx) (p : List Vtx) : Prop := Complete.GoodPath c (fun v => v.isArg = false) (fun _ => True) p

theorem walkPath_inv (H : Hyp c O T F) (hg : EdgeOK c.env c.g) (hf : C01.FuncsOK c)
    (rec : Vtx → CallSt → Except RErr ArgMap × CallSt) (hrec : RecSound c O T F rec) {p : List Vtx}
    (hp : PathOK c p) (s : CallSt) (hs : Inv c O T F s) :
    Inv c O T F (walkPath c rec s p).s ∧
    ((walkPath c rec s p).err = none → ∀ x l, (walkPath c rec s p).final = some x → p.getLast? = some l →
      ValOK c.g O l x) := by
  obtain ⟨tl, rfl, hchain, _, hfirst, ⟨l, hl, hkind⟩⟩ := hp
  have hlast : (Vtx.root :: tl).getLast? = some l := by
    cases tl with
    | nil => cases hl
    | cons a tl' => rw [List.getLast?_cons_cons]; exact hl
  have hfold := walkFold_inv H hg hf rec hrec tl .root { s := s, final := none, prev := some .root, err := none }
    ⟨hs, fun _ => ⟨rfl, rfl⟩⟩ hchain (fun _ => hfirst) l hlast
  rw [walkPath_root]
  refine ⟨hfold.1, fun herr x l' hx hl' => ?_⟩
  rw [hlast] at hl'
  cases hl'
  have hP := (hfold.2 herr).2
  cases l with
  | value n t u => exact hP.1 x hx
  | arg t u => exact hP x hx
  | _ => rcases hkind with h | h <;> cases h

/-! ### walking all paths -/

theorem walkPaths_inv (H : Hyp c O T F) (hg : EdgeOK c.env c.g) (hf : C01.FuncsOK c)
    (rec : Vtx → CallSt → Except RErr ArgMap × CallSt) (hrec : RecSound c O T F rec)
    (paths : List (List Vtx)) (hp : ∀ p ∈ paths, PathOK c p) (am : ArgMap) (s : CallSt)
    (hs : Inv c O T F s) (ham : AmOK c.g O am) :
    Inv c O T F (walkPaths c rec paths am s).2 ∧
    ∀ am', (walkPaths c rec paths am s).1 = .ok am' → AmOK c.g O am' := by
  induction paths generalizing am s with
  | nil => exact ⟨hs, fun am' h => by cases h; exact ham⟩
  | cons p rest ih =>
    obtain ⟨hi, hfin⟩ := walkPath_inv H hg hf rec hrec (hp p List.mem_cons_self) s hs
    have hstep := walkPaths_cons c rec p rest am s
    generalize walkPaths c rec (p :: rest) am s = r at hstep ⊢
    cases hstep with
    | err _ => exact ⟨hi, nofun⟩
    | noFinal _ _ => exact ⟨hi, nofun⟩
    | @next herr x y hx hlast =>
      refine ih (fun q hq => hp q (List.mem_cons_of_mem _ hq)) _ _ hi fun z a hz => ?_
      rw [mapGet_mapSet] at hz
      split at hz
      · rename_i hzy
        cases hz; subst hzy
        exact hfin herr x z hx hlast
      · exact ham z a hz

/-! ### reach -/

theorem reach_sound (H : Hyp c O T F) (hg : EdgeOK c.env c.g) (hf : C01.FuncsOK c)
    (hnar : ∀ t s, c.g.hasEdge (.arg t s) .root = false)
    (n : Nat) (reaching : List Vtx) (k : Nat) (s : CallSt) (hs : Inv c O T F s) :
    Inv c O T F (reach c false n reaching (.func k) s).2 ∧
    ∀ am, (reach c false n reaching (.func k) s).1 = .ok am → AmOK c.g O am := by
  induction n generalizing reaching k s with
  | zero => exact ⟨hs, nofun⟩
  | succ n ih =>
    -- up to the walk only `inputSet` and `orc` change
    have hfr : ∀ ins orc, Inv c O T F { s with inputSet := ins, orc := orc } :=
      fun _ _ => ⟨hs.store, hs.memo, hs.log⟩
    obtain ⟨ins, h1⟩ := afterSkip_frame c s (.func k)
    have ham0 : AmOK c.g O (am0 c s (.func k)) := fun x a h => hs.store x a (am0_get h)
    have hstep := reach_succ c false n reaching (.func k) s
    generalize reach c false (n + 1) reaching (.func k) s = r at hstep ⊢
    cases hstep with
    | badOracle w orc => rw [h1]; exact ⟨hfr ins orc, nofun⟩
    | nothingMissing item rest hi hm => rw [h1]; exact ⟨hfr ins rest, fun am h => by cases h; exact ham0⟩
    | unsat item rest hi ok hu =>
      obtain ⟨ins', h2⟩ := planned_frame c reaching (.func k) item s rest
      rw [h2]; exact ⟨hfr ins' rest, nofun⟩
    | walk item rest hi ok hu =>
      obtain ⟨ins', h2⟩ := planned_frame c reaching (.func k) item s rest
      rw [h2]
      refine walkPaths_inv H hg hf _ (fun k' st hst => ih _ k' st hst) _
        (Complete.GoodPath.of_item hg ok (fun _ _ _ _ => trivial) fun y hy => ?_) _ _ (hfr ins' rest) ham0
      cases y with
      | arg t s => rw [hnar t s] at hy; cases hy
      | _ => rfl

/-! ### Call -/

theorem callWith_inv (H : Hyp c O T F) (hg : EdgeOK c.env c.g) (hf : C01.FuncsOK c)
    (hnar : ∀ t s, c.g.hasEdge (.arg t s) .root = false) (cgr : CallGraphResult)
    (target : FuncDesc) (htF : F target) (htv : cgr.target = .func target.key)
    (fuel : Nat) (s0 : CallSt) (hs : Inv c O T F s0) :
    Inv c O T F (callWith c cgr target fuel s0).2 ∧
    ∀ res, (callWith c cgr target fuel s0).1 = .ok res → MayRun c O T target := by
  have hr := reach_sound H hg hf hnar fuel [] target.key s0 hs
  rw [← htv] at hr
  have cd : ∀ {am s res s2}, reach c false fuel [] cgr.target s0 = (.ok am, s) →
      callDirect c target am s = (res, s2) →
      Inv c O T F s2 ∧ ∀ r u, res = .ok (r, u) → MayRun c O T target := by
    intro am s res s2 hre hc
    rw [hre] at hr
    have := callDirect_inv H htF hr.1 (hr.2 am rfl)
    rwa [hc] at this
  have hstep := callWith_cases c cgr target fuel s0
  generalize callWith c cgr target fuel s0 = res at hstep ⊢
  cases hstep with
  | graphUnsat _ => exact ⟨hs, nofun⟩
  | @reachErr _ e _ hre => rw [hre] at hr; exact ⟨hr.1, by cases e <;> nofun⟩
  | @directErr _ _ _ hre e _ hc => exact ⟨(cd hre hc).1, by rcases callDirect_err hc with rfl | rfl <;> nofun⟩
  | @executed _ _ _ hre r u _ hc => exact ⟨(cd hre hc).1, fun _ _ => (cd hre hc).2 r u rfl⟩

/-- supplied values sit at their own vertices -/
theorem initSt_store (g : AGraph Vtx) (cg : CG) (memo : List (Nat × Memo)) (orc : List OrcItem)
    (hcg : ∀ p ∈ cg.store, O p.1 ∧ p.1.isData = true) (x : Vtx) (v : PVal)
    (hv : (initSt cg memo orc).get x = some v) : ValOK g O x v := by
  obtain ⟨p, hp, heq⟩ := List.mem_map.1 (mem_of_mapGet hv)
  cases heq
  exact ⟨(hcg p hp).1, Flow.here (hcg p hp).2⟩

end Sound

/-! ### every origin vertex admissible, every id allowed: C01 -/

theorem mayRun_origin (c : Ctx) (hg : EdgeOK c.env c.g) (f : FuncDesc) :
    MayRun c (fun v => v.isOrigin = true) (fun _ => True) f :=
  ⟨trivial, fun v hv => by
    -- only named values and typed outputs have an edge to a function vertex
    have := kindOK_of_rule (hg _ _ (AGraph.mem_ins.1 hv))
    cases v <;> first | rfl | cases this⟩

theorem hyp_origin (c : Ctx) (hg : EdgeOK c.env c.g) :
    Hyp c (fun v => v.isOrigin = true) (fun _ => True) (fun _ => True) :=
  ⟨fun _ _ _ => trivial, fun f _ _ _ _ _ => mayRun_origin c hg f, fun _ g _ _ _ _ _ _ => mayRun_origin c hg g⟩

/-- **C01, dynamic part**: every logged execution received arguments that flowed to its parameters -/
theorem callWith_args_flow (c : Ctx) (hg : EdgeOK c.env c.g) (hf : C01.FuncsOK c)
    (hnar : ∀ t s, c.g.hasEdge (.arg t s) .root = false) (cgr : CallGraphResult)
    (target : FuncDesc) (htv : cgr.target = .func target.key)
    (fuel : Nat) (s0 : CallSt) (hs : C01.StoreOK c.g s0) (hl : s0.log = []) :
    ∀ ev ∈ (callWith c cgr target fuel s0).2.log, C01.ArgsFlow c.g ev := fun ev hev =>
  ((callWith_inv (hyp_origin c hg) hg hf hnar cgr target trivial htv fuel s0
    ⟨hs, fun _ _ g _ _ _ => mayRun_origin c hg g, by rw [hl]; nofun⟩).1.log ev hev).1

theorem initSt_storeOK (cg : CG) (memo : List (Nat × Memo)) (orc : List OrcItem)
    (hcg : ∀ x v, mapGet cg.store x = some v → x.isOrigin = true) :
    C01.StoreOK cg.g (initSt cg memo orc) := by
  refine initSt_store (O := fun v => v.isOrigin = true) cg.g cg memo orc fun p hp => ?_
  obtain ⟨q, hq⟩ := Option.isSome_iff_exists.1 (mapGet_isSome_of_mem hp)
  exact ⟨hcg _ _ hq, isData_of_isOrigin (hcg _ _ hq)⟩

end ArgMapper.ReachSound
