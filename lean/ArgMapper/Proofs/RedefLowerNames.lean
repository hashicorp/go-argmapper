import ArgMapper.Proofs.Sig
import ArgMapper.Proofs.Args
/-!
# Labels built by the model of `NewFunc` have lower-case names (helper lemmas for C08c)

`fieldLabel` sets the name to `""` (type-only fields) or to `lower …`; `lower` is idempotent
(`lower_lower`, `Proofs/Args.lean`) and fixes `""`.
-/
namespace ArgMapper.RedefC
open ArgMapper

theorem fieldLabel_lower (f : Field) : lower (fieldLabel f).name = (fieldLabel f).name := by
  unfold fieldLabel
  dsimp only
  split
  · exact lower_eq_empty.2 rfl
  · exact lower_lower _

def SetLower (vs : ValueSet) : Prop := ∀ l ∈ vs.labels, lower l.name = l.name

theorem newValueSet_setLower {ps : List Param} {vs : ValueSet} (h : newValueSet ps = .ok vs) : SetLower vs := by
  refine newValueSet_ok_elim (P := SetLower) (fun l hl => nomatch hl) ?_ h
  intro d fs _ l hl
  obtain ⟨v, hv, rfl⟩ := List.mem_map.1 hl
  obtain ⟨_, f, _, _, _, hlab⟩ := structVals_mem fs 0 v hv
  rw [← hlab]
  exact fieldLabel_lower f

theorem newFunc_setLower {ins outs : List Param} {fs : FuncSig} (h : newFunc ins outs = .ok fs) :
    SetLower fs.input ∧ SetLower fs.output :=
  ⟨newValueSet_setLower (newFunc_ok' h).1, newValueSet_setLower (newFunc_ok' h).2.1⟩

end ArgMapper.RedefC
