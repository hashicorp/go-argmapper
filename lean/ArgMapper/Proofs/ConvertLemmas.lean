import ArgMapper.Model.Convert
import ArgMapper.Proofs.Sig
import ArgMapper.Proofs.ReachSound
/-!
# Helper lemmas for C10: the identity function's signature; the last execution of a successful call
-/
namespace ArgMapper.ConvertLemmas
open ArgMapper

/-! ### the signature of `func(T) T` -/

/-- the value set of the one-parameter positional list `[T]` -/
def singleVS (T : Nat) : ValueSet :=
  { hasStruct := true, ptrs := 0, values := [liftedVal 0 T],
    named := [liftedVal 0 T].foldl namedStep [],
    typed := [liftedVal 0 T].foldl typedStep [], lifted := true }

theorem newValueSet_single (T : Nat) : newValueSet [.plain T] = .ok (singleVS T) := by
  have hns : ∀ p ∈ [Param.plain T], p.isStruct = false := by
    intro p hp; simp at hp; subst hp; rfl
  rw [newValueSet_eq_lifted _ hns (by simp), newValueSetLifted_eq _ hns]
  rfl

theorem newValueSet_nil : newValueSet [] = .ok ValueSet.nil := rfl

theorem singleVS_labels (T : Nat) : (singleVS T).labels = [⟨"", T, ""⟩] := rfl

theorem singleVS_values (T : Nat) : (singleVS T).values = [liftedVal 0 T] := rfl

theorem identitySig_ne (T : Nat) (hT : T ≠ errorTy) :
    identitySig T = .ok { input := singleVS T, output := singleVS T, hasErr := false } := by
  unfold identitySig newFunc
  have hb : (T == errorTy) = false := by simpa using hT
  simp [newValueSet_single, hb]

theorem identitySig_error :
    identitySig errorTy = .ok { input := singleVS errorTy, output := ValueSet.nil, hasErr := true } := by
  unfold identitySig newFunc
  simp [newValueSet_single, newValueSet_nil]

theorem identityDesc_ne (id key T : Nat) (hT : T ≠ errorTy) :
    identityDesc id key T =
      some { id := id, key := key, input := singleVS T, output := singleVS T, hasErr := false, once := false } := by
  unfold identityDesc
  rw [identitySig_ne T hT]

theorem identityDesc_error (id key : Nat) :
    identityDesc id key errorTy =
      some { id := id, key := key, input := singleVS errorTy, output := ValueSet.nil, hasErr := true,
             once := false } := by
  unfold identityDesc
  rw [identitySig_error]

/-! ### the last execution of a successful call on a function that is not run-once -/

theorem callWith_ok_last (c : Ctx) (cgr : CallGraphResult) (target : FuncDesc) (fuel : Nat) (s0 : CallSt)
    (hon : target.once = false) (r : BehOut) (h : (callWith c cgr target fuel s0).1 = .ok r) :
    ∃ am s args, gatherArgs c.env target am = .ok args ∧
      r = c.beh target.id (countOf s target.id) args ∧
      (callWith c cgr target fuel s0).2.log =
        s.log ++ [{ fid := target.id, nth := countOf s target.id, args := args, params := target.input.labels,
                    res := r }] := by
  have hs := ReachEqs.callWith_cases c cgr target fuel s0
  generalize callWith c cgr target fuel s0 = out at hs h
  cases hs with
  | graphUnsat hu => cases h
  | @reachErr hu e _ hr => cases e <;> cases h
  | @directErr hu _ _ hr e _ hc => cases e <;> cases h
  | @executed hu am s hr r' _ s2 hc =>
    -- a function that is not run-once is executed, not replayed
    have hd := ExecEqs.callDirect_cases c target am s
    rw [hc] at hd
    cases hd with
    | hit ho => rw [hon] at ho; cases ho
    | @exec _ args hargs =>
      dsimp only at h
      split at h
      · cases h
      · cases h; exact ⟨am, s, args, hargs, rfl, rfl⟩

theorem gatherArgs_single (e : TypeEnv) (f : FuncDesc) (am : ArgMap) (T : Nat)
    (hv : f.input.values = [liftedVal 0 T]) (args : List PVal) (h : gatherArgs e f am = .ok args) :
    ∃ a : PVal, args = [a] ∧ a.ty = T := by
  obtain ⟨h1, h2⟩ := ExecEqs.gatherArgs_eq_ok h
  rw [hv] at h1 h2
  obtain ⟨a, ha, _⟩ := h2 (liftedVal 0 T) List.mem_cons_self
  exact ⟨_, h1, by rw [ExecEqs.argOf_of_get ha]; rfl⟩

end ArgMapper.ConvertLemmas
