import ArgMapper.Proofs.GraphSim
/-!
# Handle-creating operations (`new`, `Copy`, `Reverse`) preserve the simulation invariant (C19)
-/
set_option linter.unusedSectionVars false
namespace ArgMapper
namespace GraphSpec
variable {α : Type} [DecidableEq α]
open AGraph GraphImpl

/-! ### one more handle: `new`, `Copy` and `Reverse` on the specification side -/

/-- one more handle, on class `c` with orientation `fl`, after the further classes `xc` -/
def SpecWorld.push (s : SpecWorld α) (xc : List (SClass α)) (c : Nat) (fl : Bool) : SpecWorld α :=
  { classes := s.classes ++ xc, handles := s.handles ++ [(c, fl)] }

theorem specStep_new (s : SpecWorld α) : specStep s .new = s.push [SClass.empty] s.classes.length false := rfl

theorem specStep_copy (s : SpecWorld α) (h : Nat) :
    specStep s (.copy h) = s.push [s.cls h] s.classes.length (s.handle h).2 := rfl

theorem specStep_reverse (s : SpecWorld α) (h : Nat) :
    specStep s (.reverse h) = s.push [] (s.handle h).1 (!(s.handle h).2) := by
  simp [specStep, SpecWorld.push]

section push
variable (s : SpecWorld α) (xc : List (SClass α)) (c : Nat) (fl : Bool)

theorem push_handle_old {k : Nat} (hk : k < s.handles.length) : (s.push xc c fl).handle k = s.handle k :=
  getD_append_lt _ _ _ _ hk

theorem push_handle_new : (s.push xc c fl).handle s.handles.length = (c, fl) :=
  getD_append_len _ _ _ _

theorem push_cls_old {k : Nat} (hk : k < s.handles.length) (hc : (s.handle k).1 < s.classes.length) :
    (s.push xc c fl).cls k = s.cls k := by
  unfold SpecWorld.cls
  rw [push_handle_old s xc c fl hk]
  exact getD_append_lt _ _ _ _ hc

theorem push_cls_new : (s.push xc c fl).cls s.handles.length = (s.classes ++ xc).getD c SClass.empty := by
  unfold SpecWorld.cls
  rw [push_handle_new]
  rfl

end push

/-- Appending one handle, and possibly fresh objects and classes.  The new handle joins class `c`:
it must refer to what the handles already there refer to, and to nothing the others refer to. -/
theorem Sim.push {w w' : World α} {s : SpecWorld α} (hs : Sim w s)
    (xa : List (AdjObj α)) (xh : List (HashObj α)) (gv : GraphVal)
    (hw' : w' = { adj := w.adj ++ xa, hashes := w.hashes ++ xh, handles := w.handles ++ [gv] })
    (xc : List (SClass α)) (c : Nat) (fl : Bool)
    (hc : c < (s.classes ++ xc).length) (hshape : Shape w' gv)
    (hrep : RepC (w'.getAdj gv.out) (w'.getAdj gv.inn) (w'.getHash gv.hash)
      ((s.classes ++ xc).getD c SClass.empty) fl)
    (hsame : ∀ k, k < s.handles.length → (s.handle k).1 = c →
      w.handle k ≠ nones ∧ canon w s k = gswap fl gv)
    (hdiff : ∀ k, k < s.handles.length → (s.handle k).1 ≠ c → Disj (w.handle k) gv) :
    Sim w' (s.push xc c fl) := by
  have hlen' : (s.push xc c fl).handles.length = s.handles.length + 1 := List.length_append
  have hHold : ∀ k, k < s.handles.length → w'.handle k = w.handle k := fun k hk =>
    hw' ▸ getD_append_lt _ _ _ _ (hs.len ▸ hk)
  have hHnew : w'.handle s.handles.length = gv := by
    rw [hw', ← hs.len]; exact getD_append_len _ _ _ _
  have hSold := fun k hk => push_handle_old s xc c fl (k := k) hk
  have hSnew := push_handle_new s xc c fl
  have hCold : ∀ k, k < s.handles.length → canon w' (s.push xc c fl) k = canon w s k := fun k hk => by
    unfold canon; rw [hHold k hk, hSold k hk]
  have hCnew : canon w' (s.push xc c fl) s.handles.length = gswap fl gv := by
    unfold canon; rw [hHnew, hSnew]
  have hobjs : ∀ g, Shape w g → SameObjs w w' g := fun g hg => hw' ▸ SameObjs.of_append hg _ _ _
  have hcase : ∀ k, k < (s.push xc c fl).handles.length →
      k < s.handles.length ∨ k = s.handles.length := fun k hk => by omega
  refine ⟨?_, fun k hk => ?_, fun k hk => ?_, fun k hk => ?_, fun h1 h2 l1 l2 hcl => ?_,
    fun h1 h2 l1 l2 hne hcl => ?_, fun h1 h2 l1 l2 hcl => ?_⟩
  · rw [hw', hlen', ← hs.len]; exact List.length_append
  · rcases hcase k hk with hk | rfl
    · rw [hSold k hk]
      exact Nat.lt_of_lt_of_le (hs.cok k hk) (List.length_append ▸ Nat.le_add_right _ _)
    · rw [hSnew]; exact hc
  · rcases hcase k hk with hk | rfl
    · rw [hHold k hk]
      exact (hs.shape k hk).mono (hw' ▸ List.length_append ▸ Nat.le_add_right _ _)
        (hw' ▸ List.length_append ▸ Nat.le_add_right _ _)
    · rw [hHnew]; exact hshape
  · rcases hcase k hk with hk | rfl
    · rw [hCold k hk, push_cls_old s xc c fl hk (hs.cok k hk)]
      exact ((hobjs _ (hs.shape k hk)).gswap _).rep (hs.rep k hk)
    · rw [hCnew, push_cls_new, rep_gswap]; exact hrep
  · rcases hcase h1 l1 with l1 | rfl <;> rcases hcase h2 l2 with l2 | rfl
    · rw [hSold h1 l1, hSold h2 l2] at hcl
      rw [hCold h1 l1, hCold h2 l2]
      exact hs.same h1 h2 l1 l2 hcl
    · rw [hSold h1 l1, hSnew] at hcl
      rw [hCold h1 l1, hCnew]
      exact (hsame h1 l1 hcl).2
    · rw [hSnew, hSold h2 l2] at hcl
      rw [hCold h2 l2, hCnew]
      exact (hsame h2 l2 hcl.symm).2.symm
    · rfl
  · rcases hcase h1 l1 with l1 | rfl <;> rcases hcase h2 l2 with l2 | rfl
    · rw [hSold h1 l1, hSold h2 l2] at hcl
      rw [hHold h1 l1]
      exact hs.shared h1 h2 l1 l2 hne hcl
    · rw [hSold h1 l1, hSnew] at hcl
      rw [hHold h1 l1]
      exact (hsame h1 l1 hcl).1
    · -- the new handle refers to what an initialised one refers to
      rw [hSnew, hSold h2 l2] at hcl
      obtain ⟨hn, he⟩ := hsame h2 l2 hcl.symm
      rw [hHnew]
      exact fun e => hn (gswap_eq_nones.1 (he.trans (gswap_eq_nones.2 e)))
    · exact absurd rfl hne
  · rcases hcase h1 l1 with l1 | rfl <;> rcases hcase h2 l2 with l2 | rfl
    · rw [hSold h1 l1, hSold h2 l2] at hcl
      rw [hHold h1 l1, hHold h2 l2]
      exact hs.diff h1 h2 l1 l2 hcl
    · rw [hSold h1 l1, hSnew] at hcl
      rw [hHold h1 l1, hHnew]
      exact hdiff h1 l1 hcl
    · rw [hSnew, hSold h2 l2] at hcl
      rw [hHold h2 l2, hHnew]
      exact (hdiff h2 l2 (Ne.symm hcl)).symm
    · exact absurd rfl hcl

end GraphSpec
end ArgMapper
