import ArgMapper.Spec.Flow
import ArgMapper.Proofs.CallGraphEdges
import ArgMapper.Proofs.Sig
/-!
# Edges into the root and into function vertices of `callGraph`; well-keyed value sets (C01b)

`EdgeP F` refines the edge characterisation of `CallGraphEdges.lean` for the two targets the dynamic
part of C01 cares about: an edge into the root never starts at a typed-argument vertex (in a graph
built without Redefine), and an edge into a function vertex was created from an entry of the output
set of a converter in `F` with that key.  It is read off the places where edges are created (`Gen`).
-/
namespace ArgMapper
namespace CGF
open Generated CGE

/-! ### the edge predicate -/

def EdgeP (F : List FuncDesc) (x y : Vtx) : Prop :=
  match y with
  | .root => x.isArg = false
  | .func k => ∃ f ∈ F, f.key = k ∧
      ((∃ p ∈ f.output.named, x = .value p.1 p.2.lab.ty p.2.lab.sub) ∨
       (∃ p ∈ f.output.typed, x = .out p.2.lab.ty p.2.lab.sub))
  | _ => True

theorem gen_edgeP {P : Rules} (hrd : P.redefining = false)
    (hins : ∀ x ∈ P.ins, x.isValue = true ∨ x.isOut = true) {u v : Vtx} {w : Int} (h : Gen P u v w) :
    EdgeP P.convs u v := by
  cases h with
  | funcRoot f => exact rfl
  | req f val =>
    unfold Label.vertex
    split <;> trivial
  | input x hx =>
    show u.isArg = false
    rcases hins _ hx with h | h <;> cases u <;> first | rfl | cases h
  | outNamed f p hf hp => exact ⟨f, hf, rfl, .inl ⟨p, hp, rfl⟩⟩
  | outTyped f p hf hp => exact ⟨f, hf, rfl, .inr ⟨p, hp, rfl⟩⟩
  | redefine v h => rw [hrd] at h; cases h
  | _ => trivial

theorem ginv_callGraph (var : Variant) (e : TypeEnv) (b : Builder) (funcs : Nat → Option FuncDesc)
    (target : FuncDesc) (filter : Option Filter) :
    ∀ x y, (callGraph var e b funcs target false filter).cg.g.hasEdge x y = true →
      EdgeP (b.convs.filterMap funcs) x y := by
  intro x y h
  rw [callGraph_cg] at h
  obtain ⟨w, hw⟩ := AGraph.hasEdge_iff_weight.1 (ExactWins.hasEdge_prune _ _ _ _ h)
  exact gen_edgeP (P := rulesOf var e b funcs target false filter) rfl (fun _ => Prune.inputsList_kind)
    (lastV_weight var e b funcs target false filter hw)

/-! ### well-keyed value sets -/

theorem foldl_namedStep_keys (V : List SVal) (vals : List SVal) :
    ∀ (m : List (String × SVal)), (∀ v ∈ vals, v ∈ V) →
      (∀ p ∈ m, p.2 ∈ V ∧ p.1 = p.2.lab.name ∧ p.1 ≠ "") →
      ∀ p ∈ vals.foldl namedStep m, p.2 ∈ V ∧ p.1 = p.2.lab.name ∧ p.1 ≠ "" := by
  induction vals with
  | nil => intro m _ hm; exact hm
  | cons v vals ih =>
    intro m hV hm
    rw [List.foldl_cons]
    apply ih _ (fun x hx => hV x (List.mem_cons_of_mem _ hx))
    intro p hp
    unfold namedStep at hp
    split at hp
    · next hn =>
      rcases mem_mapSet hp with hp | rfl
      · exact hm p hp
      · exact ⟨hV v List.mem_cons_self, rfl, hn⟩
    · exact hm p hp

theorem foldl_typedStep_keys (V : List SVal) (vals : List SVal) :
    ∀ (m : List (Nat × SVal)), (∀ v ∈ vals, v ∈ V) →
      (∀ p ∈ m, p.2 ∈ V ∧ p.1 = p.2.lab.ty ∧ p.2.lab.name = "") →
      ∀ p ∈ vals.foldl typedStep m, p.2 ∈ V ∧ p.1 = p.2.lab.ty ∧ p.2.lab.name = "" := by
  induction vals with
  | nil => intro m _ hm; exact hm
  | cons v vals ih =>
    intro m hV hm
    rw [List.foldl_cons]
    apply ih _ (fun x hx => hV x (List.mem_cons_of_mem _ hx))
    intro p hp
    unfold typedStep at hp
    split at hp
    · exact hm p hp
    · next hn =>
      rcases mem_mapSet hp with hp | rfl
      · exact hm p hp
      · exact ⟨hV v List.mem_cons_self, rfl, by simpa using hn⟩

theorem keysOK_nil : ValueSet.KeysOK ValueSet.nil := by
  refine ⟨?_, ?_⟩ <;> intro p hp <;> simp [ValueSet.nil] at hp

theorem newValueSet_keysOK {ps : List Param} {vs : ValueSet} (h : newValueSet ps = .ok vs) :
    ValueSet.KeysOK vs :=
  newValueSet_ok_elim keysOK_nil
    (fun _ _ _ => ⟨foldl_namedStep_keys _ _ [] (fun _ hx => hx) (by simp),
      foldl_typedStep_keys _ _ [] (fun _ hx => hx) (by simp)⟩) h

/-! ### `FuncsOK` from the edge predicate -/

theorem funcsOK_of_edgeP (F A : List FuncDesc) (g : AGraph Vtx)
    (hg : ∀ x y, g.hasEdge x y = true → EdgeP F x y) (hsub : ∀ f ∈ F, f ∈ A)
    (hcons : ∀ f ∈ A, ∀ f' ∈ A, f.key = f'.key → f.output = f'.output)
    (hkeys : ∀ f ∈ A, ValueSet.KeysOK f.output)
    (k : Nat) (f : FuncDesc) (hfo : A.find? (fun f => f.key == k) = some f) :
    f.key = k ∧
    ∀ v ∈ g.ins (.func k),
      (∀ n t s, v = .value n t s → (mapGet f.output.named n).isSome = true) ∧
      (∀ t s, v = .out t s → (mapGet f.output.typed t).isSome = true) ∧
      (v.isValue = true ∨ v.isOut = true) := by
  have hk : f.key = k := by simpa using List.find?_some hfo
  have hfA : f ∈ A := List.mem_of_find?_eq_some hfo
  refine ⟨hk, ?_⟩
  intro v hv
  obtain ⟨f', hf'F, hk', hcase⟩ := hg v (.func k) (AGraph.mem_ins.1 hv)
  have hout : f.output = f'.output := hcons f hfA f' (hsub f' hf'F) (hk.trans hk'.symm)
  rcases hcase with ⟨p, hp, rfl⟩ | ⟨p, hp, rfl⟩
  · refine ⟨?_, ?_, Or.inl rfl⟩
    · intro n t s hv
      injection hv with hn _ _
      rw [hout, ← hn]
      exact mapGet_isSome_of_mem hp
    · intro t s hv
      cases hv
  · refine ⟨?_, ?_, Or.inr rfl⟩
    · intro n t s hv
      cases hv
    · intro t s hv
      injection hv with ht _
      have hkey := ((hkeys f' (hsub f' hf'F)).2 p hp).2.1
      rw [hout, ← ht, ← hkey]
      exact mapGet_isSome_of_mem hp

end CGF
end ArgMapper
