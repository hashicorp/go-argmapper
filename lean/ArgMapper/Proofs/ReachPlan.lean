import ArgMapper.Proofs.ReachEqs
/-!
# The steps of `reach` before the walk: the oracle item and the planning loop

Without `skipRecordsInput` the state the item is taken from is the given one; without `auto` the item is the
head of the recorded oracle.  A vertex whose requirements are all there has nothing missing.  In `Call` mode
(`redefine = false`) the planning loop changes the input set only, and with `trackReaching` it reports nothing
when no chosen path meets the resolution stack.
-/
namespace ArgMapper.ReachEqs
open ArgMapper

theorem afterSkip_eq {c : Ctx} (h : c.skipRecordsInput = false) (s : CallSt) (target : Vtx) :
    afterSkip c s target = s := by
  unfold afterSkip
  rw [h]
  rfl

theorem nextItem_orc {c : Ctx} (h : c.auto = false) {s : CallSt} {target : Vtx} {item : OrcItem}
    {rest : List OrcItem} (hi : nextItem c s target = some (item, rest)) :
    (afterSkip c s target).orc = item :: rest := by
  unfold nextItem at hi
  split at hi
  · rename_i i r ho
    cases hi
    exact ho
  · rw [h] at hi
    cases hi

/-! ### a vertex whose requirements are all there -/

theorem missing_eq_nil {c : Ctx} {s : CallSt} {t : Vtx}
    (hall : ∀ v ∈ c.g.outs t, (v == Vtx.root || takenAsIs c s v) = true) : missing c s t = [] :=
  List.filter_eq_nil_iff.2 (fun v hv => by simp [hall v hv])

theorem am0_eq_outs {c : Ctx} {s : CallSt} {t : Vtx}
    (hall : ∀ v ∈ c.g.outs t, (v == Vtx.root || takenAsIs c s v) = true) :
    am0 c s t =
      (c.g.outs t).filterMap (fun v => if v == Vtx.root then none else (s.get v).map (fun x => (v, x))) := by
  rw [am0, skipped, List.filter_eq_self.2 hall]

/-! ### valid paths -/

theorem validPath_iff {g : AGraph Vtx} {cur : Vtx} {p : List Vtx} :
    validPath g cur p = true ↔
      p.head? = some Vtx.root ∧ p.getLast? = some cur ∧ AGraph.isPathB g.reverse p = true := by
  simp only [validPath, Bool.and_eq_true, beq_iff_eq]
  refine ⟨fun h => ⟨h.1.1.2, h.1.2, h.2⟩, fun h => ⟨⟨⟨?_, h.1⟩, h.2.1⟩, h.2.2⟩⟩
  cases p with
  | nil => cases h.1
  | cons a l => rfl

theorem validPath_last {g : AGraph Vtx} {cur : Vtx} {p : List Vtx} (h : validPath g cur p = true) :
    p.getLast? = some cur :=
  (validPath_iff.1 h).2.1

theorem ItemOK.last {c : Ctx} {s : CallSt} {target : Vtx} {item : OrcItem} (ok : ItemOK c s target item)
    {cp : Vtx × List Vtx} (h : cp ∈ item.missing.zip item.paths) : cp.2.getLast? = some cp.1 :=
  validPath_last (ok.valid cp h)

/-! ### the planning loop -/

theorem planOne_false_frame (target : Vtx) (reaching : List Vtx) (tr : Bool) (ps : PlanSt)
    (cp : Vtx × List Vtx) :
    ∃ ins, (planOne target reaching tr false ps cp).s = { ps.s with inputSet := ins } := by
  unfold planOne
  dsimp only
  split
  · exact ⟨_, rfl⟩
  · exact addInput_frame ps.s _

theorem plan_false_frame (c : Ctx) (reaching : List Vtx) (target : Vtx) (item : OrcItem) (s : CallSt) :
    ∃ ins, (plan c false reaching target item s).s = { s with inputSet := ins } := by
  unfold plan
  generalize hps : ({ s := s, unsat := [] } : PlanSt) = ps
  have h0 : ∃ ins, ps.s = { s with inputSet := ins } := by subst hps; exact ⟨_, rfl⟩
  clear hps
  induction item.missing.zip item.paths generalizing ps with
  | nil => exact h0
  | cons cp l ih =>
    rw [List.foldl_cons]
    apply ih
    obtain ⟨ins, h⟩ := h0
    obtain ⟨ins', h'⟩ := planOne_false_frame target (target :: reaching) c.trackReaching ps cp
    exact ⟨ins', by rw [h', h]⟩

theorem planned_frame (c : Ctx) (reaching : List Vtx) (target : Vtx) (item : OrcItem) (s : CallSt)
    (rest : List OrcItem) :
    ∃ ins, (plan c false reaching target item { afterSkip c s target with orc := rest }).s =
      { s with inputSet := ins, orc := rest } := by
  obtain ⟨ins, h1⟩ := afterSkip_frame c s target
  obtain ⟨ins', h2⟩ := plan_false_frame c reaching target item { afterSkip c s target with orc := rest }
  exact ⟨ins', by rw [h2, h1]⟩

theorem planOne_unsat (target : Vtx) (reaching : List Vtx) (tr rd : Bool) (ps : PlanSt) (cp : Vtx × List Vtx) :
    (planOne target reaching tr rd ps cp).unsat =
      ps.unsat ++ ((if tr then cp.2.filter (fun v => decide (v ∈ reaching))
        else cp.2.filter (fun v => decide (v = target))).map (fun _ => cp.1.label)) := by
  unfold planOne
  dsimp only
  split <;> rfl

/-- what planning reports: each requirement's label, once for every vertex of its path that is being resolved -/
theorem plan_unsat (target : Vtx) (reaching : List Vtx) (tr rd : Bool) (l : List (Vtx × List Vtx)) (ps : PlanSt) :
    (l.foldl (planOne target reaching tr rd) ps).unsat =
      ps.unsat ++ l.flatMap (fun cp => (if tr then cp.2.filter (fun v => decide (v ∈ reaching))
        else cp.2.filter (fun v => decide (v = target))).map (fun _ => cp.1.label)) := by
  induction l generalizing ps with
  | nil => simp
  | cons cp rest ih => rw [List.foldl_cons, ih, planOne_unsat, List.flatMap_cons, List.append_assoc]

theorem plan_unsat_nil_iff {c : Ctx} (htr : c.trackReaching = true) (rd : Bool) (reaching : List Vtx) (target : Vtx)
    (item : OrcItem) (s : CallSt) :
    (plan c rd reaching target item s).unsat = [] ↔
      ∀ cp ∈ item.missing.zip item.paths, ∀ v ∈ cp.2, v ∉ target :: reaching := by
  unfold plan
  rw [plan_unsat, htr]
  simp [List.filter_eq_nil_iff]

theorem plan_unsat_nil {c : Ctx} (htr : c.trackReaching = true) (rd : Bool) (reaching : List Vtx) (target : Vtx)
    (item : OrcItem) (s : CallSt)
    (h : ∀ cp ∈ item.missing.zip item.paths, ∀ v ∈ cp.2, v ∉ target :: reaching) :
    (plan c rd reaching target item s).unsat = [] :=
  (plan_unsat_nil_iff htr rd reaching target item s).2 h

end ArgMapper.ReachEqs
