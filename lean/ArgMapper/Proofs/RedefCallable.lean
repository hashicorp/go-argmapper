import ArgMapper.Proofs.RedefCallableMono
/-!
# The redefined function is callable (helper lemmas for C08c)

* `withDeclared`: the builder of the call the redefined function makes.  It keeps every entry whose key no declared
  input writes and, when the declared names are pairwise distinct after lower-casing, holds a value for every
  declared input (`withDeclared_holds`).
* A successful planning run resolves every parameter of the target along a real root-first path of the Redefine
  graph whose input it recorded (`redefine_ok_resolved`).  A recorded input is supplied by the caller or
  declared, so the new builder supplies it (`recorded_kept`); every other edge of the path is an edge of the
  unpruned `Call` graph, which only grows with the supplied values (`withDeclared_grows`).  So the path, and the
  parameter at its end, survives pruning in the `Call` graph of the new builder (`chain_fin`,
  `callable_unsat`).
-/

namespace ArgMapper.RedefC
open ArgMapper Generated
open ArgMapper.RedefineInputs (mem_declaredInputs Resolved)
open ArgMapper.C08 (withDeclared)

/-! ### the builder of the redefined function's call -/

def declStep (idOf : Label → Nat) (b : Builder) (l : Label) : Builder :=
  setNamed b l.name (some { ty := l.ty, id := idOf l })

theorem withDeclared_eq (b : Builder) (ls : List Label) (idOf : Label → Nat) :
    withDeclared b ls idOf = ls.foldl (declStep idOf) b := rfl

theorem declStep_named (idOf : Label → Nat) (b : Builder) (l : Label) (hn : l.name ≠ "") :
    declStep idOf b l = { b with named := mapSet b.named (lower l.name) { ty := l.ty, id := idOf l } } := by
  unfold declStep setNamed
  rw [if_neg hn]

theorem declStep_typed (idOf : Label → Nat) (b : Builder) (l : Label) (hn : l.name = "") :
    declStep idOf b l = { b with typed := mapSet b.typed l.ty { ty := l.ty, id := idOf l } } := by
  unfold declStep setNamed
  rw [if_pos hn]
  rfl

theorem withDeclared_rest (idOf : Label → Nat) (ls : List Label) (b : Builder) :
    (withDeclared b ls idOf).convs = b.convs ∧ (withDeclared b ls idOf).namedSub = b.namedSub ∧
    (withDeclared b ls idOf).typedSub = b.typedSub := by
  rw [withDeclared_eq]
  refine foldl_inv (fun b' => b'.convs = b.convs ∧ b'.namedSub = b.namedSub ∧ b'.typedSub = b.typedSub) _
    (fun b' l h => ?_) ls b ⟨rfl, rfl, rfl⟩
  by_cases hn : l.name = ""
  · rw [declStep_typed idOf b' l hn]; exact h
  · rw [declStep_named idOf b' l hn]; exact h

theorem withDeclared_typedKeys (idOf : Label → Nat) (ls : List Label) (b : Builder)
    (h : ∀ p ∈ b.typed, p.1 = p.2.ty) : ∀ p ∈ (withDeclared b ls idOf).typed, p.1 = p.2.ty := by
  rw [withDeclared_eq]
  refine foldl_inv (fun b' => ∀ p ∈ b'.typed, p.1 = p.2.ty) _ (fun b' l h' => ?_) ls b h
  by_cases hn : l.name = ""
  · rw [declStep_typed idOf b' l hn]
    intro p hp
    rcases mem_mapSet_iff.1 hp with hp | rfl
    · exact h' p hp.1
    · rfl
  · rw [declStep_named idOf b' l hn]; exact h'

theorem withDeclared_named_keep (idOf : Label → Nat) (ls : List Label) (b : Builder) (p : String × Val)
    (hp : p ∈ b.named) (h : ∀ l ∈ ls, l.name ≠ "" → p.1 ≠ lower l.name) :
    p ∈ (withDeclared b ls idOf).named := by
  rw [withDeclared_eq]
  refine foldl_inv_mem (fun b' => p ∈ b'.named) _ ls (fun b' l hl hp' => ?_) b hp
  by_cases hn : l.name = ""
  · rw [declStep_typed idOf b' l hn]; exact hp'
  · rw [declStep_named idOf b' l hn]; exact mem_mapSet_iff.2 (.inl ⟨hp', h l hl hn⟩)

theorem declStep_typed_key (idOf : Label → Nat) (b : Builder) (l : Label) (t : Nat)
    (h : ∃ p ∈ b.typed, p.1 = t) : ∃ p ∈ (declStep idOf b l).typed, p.1 = t := by
  by_cases hn : l.name = ""
  · rw [declStep_typed idOf b l hn]
    obtain ⟨p, hp, rfl⟩ := h
    exact mapSet_key l.ty _ hp
  · rw [declStep_named idOf b l hn]; exact h

theorem withDeclared_inputs (idOf : Label → Nat) (ls : List Label) (b : Builder)
    (hfresh : ∀ l ∈ ls, l.name ≠ "" → ∀ p ∈ b.named, p.1 ≠ lower l.name) :
    ∀ u ∈ Prune.inputsList b, u ∈ Prune.inputsList (withDeclared b ls idOf) := by
  intro u hu
  obtain ⟨_, h2, h3⟩ := withDeclared_rest idOf ls b
  simp only [Prune.inputsList, List.mem_append, List.mem_map, h2, h3] at hu ⊢
  rcases hu with ((⟨p, hp, rfl⟩ | h) | ⟨p, hp, rfl⟩) | h
  · exact Or.inl (Or.inl (Or.inl ⟨p, withDeclared_named_keep idOf ls b p hp
      (fun l hl hn => hfresh l hl hn p hp), rfl⟩))
  · exact Or.inl (Or.inl (Or.inr h))
  · obtain ⟨p', hp', hk⟩ : ∃ p' ∈ (withDeclared b ls idOf).typed, p'.1 = p.1 :=
      foldl_inv (fun b' => ∃ p' ∈ b'.typed, p'.1 = p.1) _ (fun b' l => declStep_typed_key idOf b' l p.1) ls b
        ⟨p, hp, rfl⟩
    exact Or.inl (Or.inr ⟨p', hp', by rw [hk]⟩)
  · exact Or.inr h

def DistinctKeys (ls : List Label) : Prop :=
  ls.Pairwise (fun l l' => l.name ≠ "" → l'.name ≠ "" → lower l.name ≠ lower l'.name)

/-- the builder holds a value for the declared input `l`: the one passed for it in the named map, some value
of its type in the typed map -/
def Holds (idOf : Label → Nat) (l : Label) (b : Builder) : Prop :=
  if l.name = "" then ∃ p ∈ b.typed, p.1 = l.ty
  else (lower l.name, ({ ty := l.ty, id := idOf l } : Val)) ∈ b.named

theorem withDeclared_holds (idOf : Label → Nat) (ls : List Label) (b : Builder) (hd : DistinctKeys ls) :
    ∀ l ∈ ls, Holds idOf l (withDeclared b ls idOf) := by
  rw [withDeclared_eq]
  refine foldl_mem (declStep idOf) (Holds idOf) _ (fun b' l => ?_) (fun b' l l' hd' h => ?_) ls hd b
  · unfold Holds
    by_cases hn : l.name = ""
    · rw [if_pos hn, declStep_typed idOf b' l hn]
      exact ⟨_, mem_mapSet_iff.2 (.inr rfl), rfl⟩
    · rw [if_neg hn, declStep_named idOf b' l hn]
      exact mem_mapSet_iff.2 (.inr rfl)
  · -- a later declared input writes another key
    unfold Holds at h ⊢
    by_cases hn : l.name = ""
    · rw [if_pos hn] at h ⊢
      exact declStep_typed_key idOf b' l' l.ty h
    · rw [if_neg hn] at h ⊢
      by_cases hn' : l'.name = ""
      · rw [declStep_typed idOf b' l' hn']; exact h
      · rw [declStep_named idOf b' l' hn']
        exact mem_mapSet_iff.2 (.inl ⟨h, hd' hn hn'⟩)

/-- `fieldsOK` compares field names, the first letter in upper case; on lower-case names it tells the keys of
the named map apart -/
theorem distinct_of_fieldsOK (ls : List Label) (hf : fieldsOK ls = true)
    (hlow : ∀ l ∈ ls, l.name ≠ "" → lower l.name = l.name) : DistinctKeys ls := by
  unfold fieldsOK at hf
  rw [decide_eq_true_eq, List.Nodup, List.pairwise_map, List.pairwise_filter] at hf
  refine hf.imp_of_mem (fun {l l'} hl hl' h hn hn' heq => ?_)
  rw [hlow l hl hn, hlow l' hl' hn'] at heq
  exact h (by simpa using hn) (by simpa using hn') (by rw [heq])

theorem vertex_arg_sub {l : Label} {t : Nat} {s : String} (h : l.vertex = .arg t s) : l.sub = s := by
  unfold Label.vertex at h
  split at h
  · cases h
  · injection h

section
open ExactWins Complete
variable (e : TypeEnv) (b : Builder) (funcs : Nat → Option FuncDesc) (target : FuncDesc)

theorem fin_step {u v : Vtx} (hu : u ∈ (fin e b funcs target).g.verts) (hut : u ≠ .func target.key)
    (he : (pre e b funcs target).g.hasEdge v u = true) : v ∈ (fin e b funcs target).g.verts := by
  have hwf := pre_wf e b funcs target
  unfold fin at hu ⊢
  rw [prune_verts] at hu ⊢
  exact ⟨(AGraph.hasEdge_verts hwf he).1, kept_step _ hwf (pre_root e b funcs target) _ u v hu.2 hut he⟩

theorem fin_root_edge {u : Vtx} (he : (pre e b funcs target).g.hasEdge u .root = true) :
    u ∈ (fin e b funcs target).g.verts :=
  fin_step e b funcs target (fin_root e b funcs target) (fun h => by cases h) he

theorem chain_fin {g : AGraph Vtx}
    (hedge : ∀ u v, u ≠ .root → g.hasEdge v u = true →
      u ≠ .func target.key ∧ (pre e b funcs target).g.hasEdge v u = true)
    (hout : ∀ u, g.hasEdge .root u = false) :
    ∀ (rest : List Vtx) (u : Vtx), Chain g u rest → u ≠ .root → u ∈ (fin e b funcs target).g.verts →
      ∀ r, (u :: rest).getLast? = some r → r ∈ (fin e b funcs target).g.verts
  | [], u, _, _, hu, r, hr => by cases hr; exact hu
  | a :: rest, u, hc, hur, hu, r, hr => by
    have ha : a ≠ .root := fun h => by
      have := hc.1
      rw [h, hout] at this
      cases this
    obtain ⟨hut, he⟩ := hedge u a hur hc.1
    rw [List.getLast?_cons_cons] at hr
    exact chain_fin hedge hout rest a hc.2 ha (fin_step e b funcs target hu hut he) r hr

end

/-! ### the scenario -/

section
open Complete ExactWins
variable {e : TypeEnv} {b : Builder} {funcs : Nat → Option FuncDesc} {target : FuncDesc}

theorem pre_valueNamed (H : Hyps e b funcs target) :
    VP (fun v => v.name ≠ "" ∨ v ∈ Prune.inputsList b) (ExactWins.pre e b funcs target) := by
  apply vp_pre
  · intro u hu _
    exact Or.inr hu
  · intro f hf val hval hn
    exact Or.inl hn
  · intro f hf p hp
    have hfa : f ∈ C01.allFuncs b funcs target := List.mem_cons_of_mem _ hf
    exact Or.inl ((H.cons.2 f hfa).2.1 p hp).2.2

/-- an argument vertex with an in-edge is the vertex of a parameter: no subtype -/
theorem finR_argSub (H : Hyps e b funcs target) {fin : Option Filter} {z : Vtx} {t : Nat} {s : String}
    (h : (finR e fin b funcs target).g.hasEdge z (.arg t s) = true) : s = "" := by
  rcases finR_edge e fin b funcs target h with h' | ⟨h', _⟩
  · obtain ⟨w, hw⟩ := AGraph.hasEdge_iff_weight.1 h'
    rw [pre_eq_lastV] at hw
    generalize hy : Vtx.arg t s = y at hw
    cases lastV_weight _ _ _ _ _ _ _ hw with
    | req f val hf hval =>
      rw [← vertex_arg_sub hy.symm]
      exact (H.labs f hf).1 _ (List.mem_map.2 ⟨val, hval, rfl⟩)
    | _ => cases hy
  · cases h'

theorem finR_edge_pre (H : Hyps e b funcs target) {fin : Option Filter} {u v : Vtx} (hu : u ≠ .root)
    (h : (finR e fin b funcs target).g.hasEdge v u = true) :
    u ≠ .func target.key ∧ (ExactWins.pre e b funcs target).g.hasEdge v u = true := by
  rcases finR_edge e fin b funcs target h with h' | ⟨h', _⟩
  · refine ⟨fun hk => ?_, h'⟩
    subst hk
    obtain ⟨w, hw⟩ := AGraph.hasEdge_iff_weight.1 h'
    rw [pre_eq_lastV] at hw
    obtain ⟨f, hf, hk, _⟩ := gen_to_func (lastV_weight _ _ _ _ _ _ _ hw)
    exact H.key f hf hk
  · exact absurd h' hu

theorem initSt_input {fin : Option Filter} {orc : List OrcItem} {x : Vtx}
    (h : ((initSt (callGraph {} e b funcs target true fin).cg [] orc).get x).isSome = true) :
    x ∈ Prune.inputsList b := by
  rw [ExactWins.initSt_get, RedefC.callGraph_cg, finR_store, Option.isSome_map] at h
  obtain ⟨val, hm⟩ := Option.isSome_iff_exists.1 h
  exact store_key_input e funcs hm

/-! ### what a successful Redefine tells -/

theorem redefine_ok_resolved (fin fout : Option Filter) (outCount : Nat → Nat) (fuel : Nat) (orc : List OrcItem)
    (ls : List Label)
    (hok : redefine (rctx e b funcs target fin outCount) (callGraph {} e b funcs target true fin) target fout fuel
            (initSt (callGraph {} e b funcs target true fin).cg [] orc) = .ok ls) :
    ∃ I : List Vtx, ls = declaredInputs I (Prune.inputsList b) ∧ fieldsOK ls = true ∧
      (∀ x ∈ I, (finR e fin b funcs target).g.hasEdge x .root = true) ∧
      ∀ v ∈ target.input.values,
        (finR e fin b funcs target).g.hasEdge (.func target.key) v.lab.vertex = true ∧
        Resolved (rctx e b funcs target fin outCount) (initSt (callGraph {} e b funcs target true fin).cg [] orc)
          I v.lab.vertex := by
  obtain ⟨hun, I, _, hls, hfields, hadj, hres⟩ :=
    RedefineInputs.redefine_resolved (c := rctx e b funcs target fin outCount) rfl rfl hok
  have hg := rctx_g e b funcs target fin outCount
  rw [ArgMapper.callGraph_inputs] at hls
  refine ⟨I, hls, hfields, fun x hx => hg ▸ hadj x hx, fun v hv => ?_⟩
  have hreq := ExactWins.params_kept {} e b funcs target true fin hun v hv
  rw [RedefC.callGraph_cg] at hreq
  exact ⟨hreq, hres _ (by rw [hg]; exact AGraph.mem_outs.2 hreq)⟩

/-! ### the `Call` graph of the redefined function's call has no unsatisfied parameter -/

variable (H : Hyps e b funcs target)
  (hnames : NamesSingle (nameLabels b (C01.allFuncs b funcs target)))
  (hlowF : ∀ f ∈ C01.allFuncs b funcs target, ∀ l ∈ f.input.labels ++ f.output.labels, lower l.name = l.name)
include H hnames hlowF

theorem declared_named (n : String) (t : Nat) (s : String)
    (hv : Vtx.value n t s ∈ (ExactWins.pre e b funcs target).g.verts)
    (hnot : Vtx.value n t s ∉ Prune.inputsList b) :
    s = "" ∧ n ≠ "" ∧ lower n = n ∧ ∀ p ∈ b.named, p.1 ≠ n := by
  obtain ⟨hs, l', hl', hln, hlt⟩ := pre_valueVerts H _ hv rfl
  dsimp only [Vtx.sub, Vtx.name, Vtx.ty] at hs hln hlt
  subst hs
  have hne : n ≠ "" := by
    rcases pre_valueNamed H _ hv rfl with h | h
    · exact h
    · exact absurd h hnot
  have hsup : ∀ p ∈ b.named, p.1 = n → p.2.ty = t → False := by
    intro p hp h1 h2
    apply hnot
    rw [← h1, ← h2]
    exact mem_inputsList_named hp
  refine ⟨rfl, hne, ?_, ?_⟩
  · unfold nameLabels at hl'
    rcases List.mem_append.1 hl' with h | h
    · obtain ⟨p, hp, rfl⟩ := List.mem_map.1 h
      exact absurd hlt (fun h2 => hsup p hp hln h2)
    · obtain ⟨f, hf, hl⟩ := List.mem_flatMap.1 h
      rw [← hln]
      exact hlowF f hf l' hl
  · intro p hp h1
    have hlp : ({ name := p.1, ty := p.2.ty, sub := "" } : Label) ∈ nameLabels b (C01.allFuncs b funcs target) := by
      unfold nameLabels
      exact List.mem_append_left _ (List.mem_map.2 ⟨p, hp, rfl⟩)
    have := hnames l' hl' _ hlp (by rw [hln]; exact hne) (by rw [hln, h1])
    exact hsup p hp h1 (by rw [← hlt]; exact this.2.symm)

theorem withDeclared_grows {I : List Vtx} (hI : ∀ x ∈ I, x ∈ (ExactWins.pre e b funcs target).g.verts)
    {ls : List Label} (hls : ls = declaredInputs I (Prune.inputsList b)) (hfields : fieldsOK ls = true)
    (idOf : Label → Nat) :
    DistinctKeys ls ∧ (∀ u ∈ Prune.inputsList b, u ∈ Prune.inputsList (withDeclared b ls idOf)) ∧
    Sub (ExactWins.pre e b funcs target).g (ExactWins.pre e (withDeclared b ls idOf) funcs target).g := by
  have hdecl : ∀ l ∈ ls, l.name ≠ "" → lower l.name = l.name ∧ ∀ p ∈ b.named, p.1 ≠ l.name := by
    intro l hl hn
    rw [hls] at hl
    obtain ⟨v, hv, hnot, hkind, rfl⟩ := (mem_declaredInputs _ _ l).1 hl
    cases v with
    | value n t st =>
      obtain ⟨_, _, h3, h4⟩ := declared_named H hnames hlowF n t st (hI _ hv) hnot
      exact ⟨h3, h4⟩
    | arg t st => exact absurd rfl hn
    | _ => rcases hkind with h | h <;> cases h
  have hinputs := withDeclared_inputs idOf ls b
    (fun l hl hn p hp => by rw [(hdecl l hl hn).1]; exact (hdecl l hl hn).2 p hp)
  exact ⟨distinct_of_fieldsOK ls hfields (fun l hl hn => (hdecl l hl hn).1), hinputs,
    pre_mono e funcs target (withDeclared_rest idOf ls b).1 hinputs
      (fun v hv hval => (pre_valueVerts H _ hv hval).1)⟩

/-- a recorded input of the planning run is a vertex of the `Call` graph of the new builder: its edge to the
root was there without R8, or the caller supplied it, or it was declared -/
theorem recorded_kept {fin : Option Filter} {I : List Vtx} {ls : List Label}
    (hls : ls = declaredInputs I (Prune.inputsList b)) {idOf : Label → Nat} (hdist : DistinctKeys ls)
    (hinputs : ∀ u ∈ Prune.inputsList b, u ∈ Prune.inputsList (withDeclared b ls idOf))
    (hsub : Sub (ExactWins.pre e b funcs target).g (ExactWins.pre e (withDeclared b ls idOf) funcs target).g)
    {x : Vtx} (hx : x ∈ I) (hxe : (finR e fin b funcs target).g.hasEdge x .root = true)
    (hin : ∃ z, (finR e fin b funcs target).g.hasEdge z x = true) :
    x ∈ (ExactWins.fin e (withDeclared b ls idOf) funcs target).g.verts := by
  have hkept : ∀ u ∈ Prune.inputsList (withDeclared b ls idOf),
      u ∈ (ExactWins.fin e (withDeclared b ls idOf) funcs target).g.verts := fun u hu =>
    fin_root_edge e _ funcs target (ExactWins.inputs_edge_root e _ funcs target u hu)
  rcases finR_edge e fin b funcs target hxe with h' | ⟨_, hk⟩
  · exact fin_root_edge e _ funcs target (hsub.2 _ _ h')
  · by_cases hsup : x ∈ Prune.inputsList b
    · exact hkept _ (hinputs _ hsup)
    · have hl : { x.label with sub := "" } ∈ ls := hls ▸ (mem_declaredInputs _ _ _).2 ⟨x, hx, hsup, hk, rfl⟩
      have hh := withDeclared_holds idOf ls b hdist _ hl
      have hxpre := finR_verts e fin b funcs target (AGraph.hasEdge_verts (finR_wf e fin b funcs target) hxe).1
      cases x with
      | value n t st =>
        obtain ⟨rfl, hn, hlown, _⟩ := declared_named H hnames hlowF n t st hxpre hsup
        exact hkept _ (hlown ▸ ExactWins.mem_inputsList_named (Eq.mp (if_neg hn) hh))
      | arg t st =>
        obtain ⟨z, hz⟩ := hin
        obtain rfl := finR_argSub H hz
        -- the typed value declared for it reaches it through its out vertex
        obtain ⟨p, hp, hk⟩ := Eq.mp (if_pos rfl) hh
        have hout := ExactWins.mem_inputsList_typed hp
        rw [hk] at hout
        exact fin_step e _ funcs target (hkept _ hout) (fun h => by cases h)
          (pre_arg_out e (withDeclared b ls idOf) funcs target t "" (hsub.1 _ hxpre))
      | _ => rcases hk with h | h <;> cases h

theorem callable_unsat (fin fout : Option Filter) (outCount : Nat → Nat) (fuel : Nat)
    (orc : List OrcItem) (ls : List Label)
    (hok : redefine (rctx e b funcs target fin outCount) (callGraph {} e b funcs target true fin) target fout fuel
            (initSt (callGraph {} e b funcs target true fin).cg [] orc) = .ok ls)
    (idOf : Label → Nat) :
    (callGraph {} e (withDeclared b ls idOf) funcs target false none).unsat = [] := by
  obtain ⟨I, hls, hfields, hadj, hres⟩ := redefine_ok_resolved fin fout outCount fuel orc ls hok
  obtain ⟨hdist, hinputs, hsub⟩ := withDeclared_grows H hnames hlowF
    (fun x hx => finR_verts e fin b funcs target (AGraph.hasEdge_verts (finR_wf e fin b funcs target) (hadj x hx)).1)
    hls hfields idOf
  apply ExactWins.unsat_nil
  intro v hv
  obtain ⟨hreq, h | h | ⟨p, x, hvalid, hpi, hx⟩⟩ := hres v hv
  · exact absurd h (Prune.vertex_ne_root _)
  · -- taken as it is: supplied by the caller
    exact fin_root_edge e _ funcs target
      (ExactWins.inputs_edge_root e _ funcs target _ (hinputs _ (initSt_input (ReachEqs.isSome_of_takenAsIs h))))
  · -- resolved along a path `root :: x :: rest`
    obtain ⟨rest, rfl, hne, hch, hlast⟩ := validPath_chain hvalid (vertex_kind _)
    rw [rctx_g] at hch
    cases rest with
    | nil => exact absurd rfl hne
    | cons x' rest =>
      cases hpi
      have hin : ∃ z, (finR e fin b funcs target).g.hasEdge z x = true := by
        cases rest with
        | nil => cases hlast; exact ⟨_, hreq⟩
        | cons z _ => exact ⟨z, hch.2.1⟩
      have hout : ∀ u, (finR e fin b funcs target).g.hasEdge .root u = false := fun u => by
        rw [← rctx_g e b funcs target fin outCount]
        exact ReachSound.no_edge_from_root (rctx_std fin outCount).edgeOK u
      refine chain_fin e (withDeclared b ls idOf) funcs target
        (fun u v hu h => ⟨(finR_edge_pre H hu h).1, hsub.2 _ _ (finR_edge_pre H hu h).2⟩) hout
        rest x hch.2 (fun hr => ?_) (recorded_kept H hnames hlowF hls hdist hinputs hsub hx hch.1 hin) _ hlast
      have := hch.1
      rw [hr, hout] at this
      cases this

end


/-! ### the hypotheses of C05 carry over to the new builder -/

theorem hyps_withDeclared {e : TypeEnv} {b : Builder} {funcs : Nat → Option FuncDesc} {target : FuncDesc}
    (H : Complete.Hyps e b funcs target) (ls : List Label) (idOf : Label → Nat) :
    Complete.Hyps e (withDeclared b ls idOf) funcs target := by
  obtain ⟨hconv, hns, hts⟩ := withDeclared_rest idOf ls b
  have hall : C01.allFuncs (withDeclared b ls idOf) funcs target = C01.allFuncs b funcs target := by
    unfold C01.allFuncs
    rw [hconv]
  refine ⟨?_, hns.trans H.nsub, hts.trans H.tsub, ?_, ?_, withDeclared_typedKeys idOf ls b H.tkeys, ?_, ?_⟩
  · rw [hall]; exact H.cons
  · rw [hall]; exact H.labs
  · rw [hconv]; exact H.single
  · rw [hconv]; exact H.key
  · rw [hconv]; exact H.wf

end ArgMapper.RedefC
