import ArgMapper.Proofs.Complete
import ArgMapper.Proofs.ExactWinsTyped
import ArgMapper.Proofs.Prune
/-!
# The `Call` graph of a subtype-free scenario satisfies `Complete.Facts` (helper lemmas for C05, static part)

What an edge at a function vertex or at the root looks like is read off `Gen`, the places where `callGraph`
makes an edge (`gen_from_func`, `gen_to_func`, `gen_to_root`).  `CtxStd` is a context that runs on the graph
`callGraph` made for a scenario, in `Call` or in `Redefine`; `CtxStd.toRoot` … `CtxStd.valSub` are the fields
that `facts_std` here and its counterparts `RedefC.factsR`, `CompleteAcyclic.facts_std`, `WalkPanic.facts_std`,
`CompleteLegal.sfacts_std` assemble, and `CtxStd.initSt_sinv` is the state invariant of the initial state.
`complete_core` is C05 for any memo, oracle and `N`.  Last, value sets built by the model of `NewFunc` satisfy
the two well-formedness conditions that `Hyps.wf` asks of the converters.
-/
namespace ArgMapper.Complete
open ArgMapper Generated

/-! ### the hypotheses of C05 and what they give -/

/-- the hypotheses of `C05.complete_single` about the scenario -/
structure Hyps (e : TypeEnv) (b : Builder) (funcs : Nat → Option FuncDesc) (target : FuncDesc) : Prop where
  cons : C01.FuncsConsistent (C01.allFuncs b funcs target)
  nsub : b.namedSub = []
  tsub : b.typedSub = []
  labs : ∀ f ∈ C01.allFuncs b funcs target, (∀ l ∈ f.input.labels, l.sub = "") ∧ (∀ l ∈ f.output.labels, l.sub = "")
  single : ∀ f ∈ b.convs.filterMap funcs, f.input.values.length ≤ 1
  tkeys : ∀ p ∈ b.typed, p.1 = p.2.ty
  key : ∀ f ∈ b.convs.filterMap funcs, f.key ≠ target.key
  wf : ∀ f ∈ b.convs.filterMap funcs,
    (f.output.named.map (·.1)).Nodup ∧ (f.input.hasStruct = false → f.input.values = [])

theorem mapGet_of_nodup {κ β : Type} [DecidableEq κ] {m : List (κ × β)} (hd : (m.map (·.1)).Nodup)
    {p : κ × β} (hp : p ∈ m) : mapGet m p.1 = some p.2 := by
  have h1 := mapGet_isSome_of_mem hp
  obtain ⟨q, hq⟩ := Option.isSome_iff_exists.1 h1
  have h2 := mem_of_mapGet hq
  rw [hq, nodup_keys_unique hd h2 (show (p.1, p.2) ∈ m from hp)]

/-- what the shape of the graph and the initial state are derived from: functions of one Go type agree
and all value sets are well keyed; the converters' sets are built the way `newFunc` builds them; supplied
typed values are keyed by their type -/
structure StdHyps (b : Builder) (funcs : Nat → Option FuncDesc) (target : FuncDesc) : Prop where
  cons : C01.FuncsConsistent (C01.allFuncs b funcs target)
  wf : ∀ f ∈ b.convs.filterMap funcs,
    (f.output.named.map (·.1)).Nodup ∧ (f.input.hasStruct = false → f.input.values = [])
  typed : ExactWins.TypedOK b

theorem StdHyps.of_noTypedSub {b : Builder} {funcs : Nat → Option FuncDesc} {target : FuncDesc}
    (hc : C01.FuncsConsistent (C01.allFuncs b funcs target))
    (hwf : ∀ f ∈ b.convs.filterMap funcs,
      (f.output.named.map (·.1)).Nodup ∧ (f.input.hasStruct = false → f.input.values = []))
    (htk : ∀ p ∈ b.typed, p.1 = p.2.ty) (hts : b.typedSub = []) : StdHyps b funcs target :=
  ⟨hc, hwf, fun p hp => (htk p hp).symm, fun p hp => by rw [hts] at hp; cases hp⟩

theorem Hyps.toStd {e : TypeEnv} {b : Builder} {funcs : Nat → Option FuncDesc} {target : FuncDesc}
    (H : Hyps e b funcs target) : StdHyps b funcs target :=
  .of_noTypedSub H.cons H.wf H.tkeys H.tsub

theorem find_key_spec {A : List FuncDesc} {k : Nat} {f0 : FuncDesc}
    (h : A.find? (fun f => f.key == k) = some f0) : f0 ∈ A ∧ f0.key = k :=
  ⟨List.mem_of_find?_eq_some h, by simpa using List.find?_some h⟩

theorem find_key {A : List FuncDesc} {f : FuncDesc} {k : Nat} (hf : f ∈ A) (hk : f.key = k) :
    ∃ f0, A.find? (fun f => f.key == k) = some f0 ∧ f0 ∈ A ∧ f0.key = k := by
  obtain ⟨f0, h⟩ := Option.isSome_iff_exists.1 ((List.find?_isSome (p := fun f => f.key == k)).2 ⟨f, hf, beq_iff_eq.2 hk⟩)
  exact ⟨f0, h, find_key_spec h⟩

theorem values_nil_of_empty {vs : ValueSet} (hwf : vs.hasStruct = false → vs.values = [])
    (h : vs.empty = true) : vs.values = [] := by
  unfold ValueSet.empty at h
  cases hst : vs.hasStruct with
  | false => exact hwf hst
  | true => simpa [hst] using h

/-! ### the edges of a call graph at a function vertex and at the root -/

section
variable {P : Rules}

theorem gen_from_func (hins : ∀ x ∈ P.ins, x.isValue = true ∨ x.isOut = true) {k : Nat} {y : Vtx} {w : Int}
    (h : Gen P (.func k) y w) :
    ∃ f ∈ P.fs, f.key = k ∧ ((y = .root ∧ f.input.empty = true) ∨ ∃ v ∈ f.input.values, y = v.lab.vertex) := by
  generalize hx : Vtx.func k = x at h
  cases h with
  | funcRoot f hf he => cases hx; exact ⟨f, hf, rfl, .inl ⟨rfl, he⟩⟩
  | req f val hf hval => cases hx; exact ⟨f, hf, rfl, .inr ⟨val, hval, rfl⟩⟩
  | input x' hx' => subst hx; rcases hins _ hx' with h | h <;> cases h
  | redefine v _ hk => subst hx; rcases hk with h | h <;> cases h
  | _ => cases hx

theorem gen_to_func {x : Vtx} {k : Nat} {w : Int} (h : Gen P x (.func k) w) :
    ∃ f ∈ P.convs, f.key = k ∧
      ((∃ p ∈ f.output.named, x = .value p.1 p.2.lab.ty p.2.lab.sub) ∨
       (∃ p ∈ f.output.typed, x = .out p.2.lab.ty p.2.lab.sub)) := by
  generalize hy : Vtx.func k = y at h
  cases h with
  | outNamed f p hf hp => cases hy; exact ⟨f, hf, rfl, .inl ⟨p, hp, rfl⟩⟩
  | outTyped f p hf hp => cases hy; exact ⟨f, hf, rfl, .inr ⟨p, hp, rfl⟩⟩
  | req f val => exact absurd hy.symm (by unfold Label.vertex; split <;> simp)
  | _ => cases hy

theorem gen_to_root {x : Vtx} {w : Int} (h : Gen P x .root w) :
    x.isFunc = true ∨ x ∈ P.ins ∨ (P.redefining = true ∧ (x.isValue = true ∨ x.isArg = true)) := by
  generalize hr : Vtx.root = r at h
  cases h with
  | funcRoot f => exact .inl rfl
  | req f val => exact absurd hr.symm (Prune.vertex_ne_root _)
  | input x hx => exact .inr (.inl hx)
  | redefine v hrd hk => exact .inr (.inr ⟨hrd, hk⟩)
  | _ => cases hr

end

section
variable {e : TypeEnv} {b : Builder} {funcs : Nat → Option FuncDesc} {target : FuncDesc}

variable (e funcs) in
include e funcs in
theorem store_key_input {x : Vtx} {val : Val} (h : mapGet (ExactWins.c2 b target).store x = some val) :
    x ∈ Prune.inputsList b := by
  rw [Prune.inputsList_eq]
  refine List.mem_map.2 ⟨(x, val), lastV_store {} e b funcs target false none ?_, rfl⟩
  rw [lastV_store_eq]
  exact mem_of_mapGet h

/-- `c` runs on the graph `callGraph` made for the scenario (in `Redefine` when `rd`); a function vertex holds
the first function registered with its type -/
structure CtxStd (e : TypeEnv) (b : Builder) (funcs : Nat → Option FuncDesc) (target : FuncDesc)
    (rd : Bool) (filter : Option Filter) (c : Ctx) : Prop where
  env : c.env = e
  g : c.g = (callGraph {} e b funcs target rd filter).cg.g
  funcOf : ∀ k, c.funcOf k = (C01.allFuncs b funcs target).find? (fun f => f.key == k)

theorem ctxStd_call (beh : Nat → Nat → List PVal → BehOut) :
    CtxStd e b funcs target false none (C01.stdCtx e b funcs target beh) :=
  ⟨rfl, by dsimp only [C01.stdCtx], fun _ => rfl⟩

namespace CtxStd
variable {rd : Bool} {filter : Option Filter} {c : Ctx} (C : CtxStd e b funcs target rd filter c)
  (S : StdHyps b funcs target)
include C

theorem edgeOK : EdgeOK c.env c.g := by
  rw [C.env, C.g]
  exact C01.callGraph_edges e b funcs target rd filter

theorem wf : c.g.WF := by
  rw [C.g, callGraph_cg]
  exact ExactWins.prune_wf _ (lastV_wf _ _ _ _ _ _ _) _

/-- pruning adds nothing: every edge was made at one of the places `Gen` lists -/
theorem gen {x y : Vtx} (h : c.g.hasEdge x y = true) :
    ∃ w, Gen (rulesOf {} e b funcs target rd filter) x y w := by
  rw [C.g, callGraph_cg] at h
  obtain ⟨w, hw⟩ := AGraph.hasEdge_iff_weight.1 (ExactWins.hasEdge_prune _ _ _ _ h)
  exact ⟨w, lastV_weight _ _ _ _ _ _ _ hw⟩

theorem genV {v : Vtx} (h : v ∈ c.g.verts) : GenV (rulesOf {} e b funcs target rd filter) v := by
  rw [C.g, callGraph_cg] at h
  exact lastV_verts _ _ _ _ _ _ _ ((ExactWins.prune_verts _ _ _).1 h).1

theorem funcOf_mem {k : Nat} {f : FuncDesc} (h : c.funcOf k = some f) :
    f ∈ C01.allFuncs b funcs target ∧ f.key = k :=
  find_key_spec (C.funcOf k ▸ h)

theorem funcOf_conv {k : Nat} {f : FuncDesc} (h : c.funcOf k = some f) (hk : k ≠ target.key) :
    f ∈ b.convs.filterMap funcs := by
  obtain ⟨hm, rfl⟩ := C.funcOf_mem h
  rcases List.mem_cons.1 hm with rfl | hm
  · exact absurd rfl hk
  · exact hm

include S in
theorem funcOf_same {f f0 : FuncDesc} (hf : f ∈ C01.allFuncs b funcs target)
    (h : c.funcOf f.key = some f0) : f0.input = f.input ∧ f0.output = f.output :=
  S.cons.1 f0 (C.funcOf_mem h).1 f hf (C.funcOf_mem h).2

/-- every function vertex of the graph has a function object: the vertex survived pruning, so it was reached
through an edge it has, and an edge from a function vertex was made for a function of that type -/
theorem funcOf_isSome {k : Nat} (hk : Vtx.func k ∈ c.g.verts) : (c.funcOf k).isSome = true := by
  rw [C.g, callGraph_cg, ExactWins.prune_verts] at hk
  obtain ⟨u, _, hge⟩ := ExactWins.kept_pred _ (lastV_wf _ _ _ _ _ _ _) (lastV_root _ _ _ _ _ _ _) _ _ hk.2
    (by simp)
  obtain ⟨w, hw⟩ := AGraph.hasEdge_iff_weight.1 hge
  obtain ⟨f, hf, rfl, _⟩ := gen_from_func (fun _ => Prune.inputsList_kind) (lastV_weight _ _ _ _ _ _ _ hw)
  obtain ⟨f0, h0, _⟩ := find_key (A := C01.allFuncs b funcs target) hf rfl
  rw [C.funcOf, h0]
  rfl

/-! the fields of `Complete.Facts`, `RedefC.FactsR`, `CompleteAcyclic.FactsA`, `WalkPanic.Facts` and
`CompleteLegal.SFacts` that are read off the edges -/

theorem toRootR : ∀ x, c.g.hasEdge x .root = true →
    x.isFunc = true ∨ x ∈ Prune.inputsList b ∨ x.isValue = true ∨ x.isArg = true := by
  intro x he
  obtain ⟨w, hw⟩ := C.gen he
  exact (gen_to_root hw).imp_right (·.imp_right (·.2))

omit C in
theorem toRoot (C : CtxStd e b funcs target false filter c) :
    ∀ x, c.g.hasEdge x .root = true → x.isFunc = true ∨ x ∈ Prune.inputsList b := by
  intro x he
  obtain ⟨w, hw⟩ := C.gen he
  exact (gen_to_root hw).imp_right (·.resolve_right fun h => Bool.noConfusion h.1)

theorem funcKey : ∀ k f, c.funcOf k = some f → f.key = k :=
  fun _ _ h => (C.funcOf_mem h).2

include S in
theorem funcReq : ∀ k y, c.g.hasEdge (.func k) y = true →
    ∃ f, c.funcOf k = some f ∧ (y = .root ∨ ∃ v ∈ f.input.values, y = v.lab.vertex) := by
  intro k y he
  obtain ⟨w, hw⟩ := C.gen he
  obtain ⟨f, hf, rfl, hy⟩ := gen_from_func (fun _ => Prune.inputsList_kind) hw
  have hf : f ∈ C01.allFuncs b funcs target := hf
  obtain ⟨f0, h0, _⟩ := find_key hf rfl
  rw [← C.funcOf] at h0
  refine ⟨f0, h0, hy.imp (·.1) fun ⟨v, hv, hyv⟩ => ⟨v, ?_, hyv⟩⟩
  rw [(C.funcOf_same S hf h0).1]
  exact hv

include S in
theorem funcRoot : ∀ k f, k ≠ target.key → c.funcOf k = some f → c.g.hasEdge (.func k) .root = true →
    f.input.values = [] := by
  intro k f0 hk h he
  obtain ⟨w, hw⟩ := C.gen he
  obtain ⟨f, hf, rfl, hy⟩ := gen_from_func (fun _ => Prune.inputsList_kind) hw
  have hwf := (S.wf f0 (C.funcOf_conv h hk)).2
  rw [(C.funcOf_same S hf h).1] at hwf ⊢
  rcases hy with ⟨_, hemp⟩ | ⟨v, _, hv⟩
  · exact values_nil_of_empty hwf hemp
  · exact absurd hv.symm (Prune.vertex_ne_root _)

theorem single (hsi : ∀ f ∈ b.convs.filterMap funcs, f.input.values.length ≤ 1) :
    ∀ k f, k ≠ target.key → c.funcOf k = some f → f.input.values.length ≤ 1 :=
  fun _ f hk h => hsi f (C.funcOf_conv h hk)

/-- only converters have results, so no converter of the target's type means no edge into its vertex -/
theorem noTarget (hkey : ∀ f ∈ b.convs.filterMap funcs, f.key ≠ target.key) :
    ∀ x, c.g.hasEdge x (.func target.key) = false := by
  intro x
  refine Bool.eq_false_iff.2 fun he => ?_
  obtain ⟨w, hw⟩ := C.gen he
  obtain ⟨f, hf, hk, _⟩ := gen_to_func hw
  exact hkey f hf hk

include S in
/-- an edge into a function vertex comes from a result of a converter of that type: the named map holds
that result under its name (the map has one entry per name), the typed map one under its type -/
theorem outTyped : ∀ k f, c.funcOf k = some f → OutTyped f (c.g.ins (.func k)) := by
  intro k f0 h v hv
  obtain ⟨w, hw⟩ := C.gen (AGraph.mem_ins.1 hv)
  obtain ⟨f, hf, rfl, hcase⟩ := gen_to_func hw
  have hfa : f ∈ C01.allFuncs b funcs target := List.mem_cons_of_mem _ hf
  rw [(C.funcOf_same S hfa h).2]
  rcases hcase with ⟨p, hp, rfl⟩ | ⟨p, hp, rfl⟩
  · refine ⟨?_, fun _ _ h => (nomatch h), .inl rfl⟩
    rintro _ _ _ ⟨⟩
    exact ⟨p.2, mapGet_of_nodup (S.wf f hf).1 hp, rfl⟩
  · refine ⟨fun _ _ _ h => (nomatch h), ?_, .inr rfl⟩
    rintro _ _ ⟨⟩
    have hkeys := (S.cons.2 f hfa).2.2
    obtain ⟨sv, hsv⟩ := Option.isSome_iff_exists.1 (mapGet_isSome_of_mem hp)
    rw [(hkeys p hp).2.1] at hsv
    exact ⟨sv, hsv, ((hkeys _ (mem_of_mapGet hsv)).2.1).symm⟩

include S in
/-- in a scenario without subtypes no value vertex carries one, so no edge leads to one that does -/
theorem valSub (hns : b.namedSub = [])
    (hlab : ∀ f ∈ C01.allFuncs b funcs target,
      (∀ l ∈ f.input.labels, l.sub = "") ∧ (∀ l ∈ f.output.labels, l.sub = "")) :
    ∀ x n t s, c.g.hasEdge x (.value n t s) = true → s = "" := by
  intro x n t s he
  generalize hv : Vtx.value n t s = v at he
  have hs : v.sub = s := by rw [← hv]; rfl
  rw [← hs]
  cases C.genV (AGraph.hasEdge_verts C.wf he).2 with
  | other _ h => rw [← hv] at h; cases h
  | req f val hf hval =>
    have := (hlab f hf).1 _ (List.mem_map.2 ⟨val, hval, rfl⟩)
    unfold Label.vertex
    split <;> exact this
  | outNamed f p hf hp =>
    have hfa : f ∈ C01.allFuncs b funcs target := List.mem_cons_of_mem _ hf
    exact (hlab f hfa).2 _ (List.mem_map.2 ⟨p.2, ((S.cons.2 f hfa).2.1 p hp).1, rfl⟩)
  | input x hx =>
    simp only [rulesOf, Prune.inputsList, hns, List.map_nil, List.append_nil, List.mem_append,
      List.mem_map] at hx
    rcases hx with (⟨p, _, rfl⟩ | ⟨p, _, rfl⟩) | ⟨p, _, rfl⟩
    · rfl
    · cases hv
    · cases hv

/-- the store `callGraph` leaves is the one `inputsGraph` wrote: every key is a supplied vertex, and every
supplied vertex holds a value of its type -/
theorem initSt_sinv (hb : ExactWins.TypedOK b) (N : Prop) (memo : List (Nat × Memo))
    (hmemo : N → ∀ p ∈ memo, p.2.res.err = none) (orc : List OrcItem) :
    SInv c N (fun x => x ∈ Prune.inputsList b)
      (initSt (callGraph {} e b funcs target rd filter).cg memo orc) := by
  have hst : (callGraph {} e b funcs target rd filter).cg.store = (ExactWins.c2 b target).store := by
    rw [callGraph_cg, ExactWins.store_prune, lastV_store_eq]
  have hsup := ExactWins.store_inputVerts (ExactWins.c1 target) b hb
  refine ⟨fun x v hv => ?_, fun x hx => ?_, hmemo⟩
  · rw [ExactWins.initSt_get, hst, Option.map_eq_some_iff] at hv
    obtain ⟨val, hm, rfl⟩ := hv
    have hx := store_key_input e funcs hm
    obtain ⟨val', h1, h2⟩ := hsup x hx
    cases hm.symm.trans h1
    show c.env.assignable val.ty x.ty = true
    rw [C.env, h2]
    exact TypeEnv.assignable_refl _ _
  · obtain ⟨val', h1, _⟩ := hsup x hx
    rw [ExactWins.initSt_get, hst, show mapGet (ExactWins.c2 b target).store x = some val' from h1]
    rfl

end CtxStd

theorem callGraph_g_fin : (callGraph {} e b funcs target false none).cg.g = (ExactWins.fin e b funcs target).g := by
  rw [ExactWins.callGraph_cg]; rfl

theorem facts_std (H : Hyps e b funcs target) (ht : ImplTrans e) (beh : Nat → Nat → List PVal → BehOut)
    (N : Prop) (hN : N → ∀ f n a, (beh f n a).err = none) :
    Facts (C01.stdCtx e b funcs target beh) N target.key (fun x => x ∈ Prune.inputsList b) := by
  have C := ctxStd_call (e := e) (b := b) (funcs := funcs) (target := target) beh
  have S := H.toStd
  exact
    { hN := hN, pub := rfl, tvn := rfl, mc := rfl, tr := rfl, sri := rfl, auto := rfl, trans := ht,
      edgeOK := C.edgeOK, valSub := C.valSub S H.nsub H.labs, toRoot := C.toRoot,
      supKind := fun x hx => Prune.inputsList_kind hx,
      funcReq := C.funcReq S, funcKey := C.funcKey, funcRoot := C.funcRoot S, single := C.single H.single,
      noTarget := C.noTarget H.key, outTyped := C.outTyped S }

theorem params_kept (hsat : (callGraph {} e b funcs target false none).unsat = [])
    (beh : Nat → Nat → List PVal → BehOut) (v : SVal) (hv : v ∈ target.input.values) :
    v.lab.vertex ∈ (C01.stdCtx e b funcs target beh).g.outs (.func target.key) := by
  rw [ExactWins.stdCtx_g, AGraph.mem_outs]
  have h := ExactWins.params_kept {} e b funcs target false none hsat v hv
  rw [ExactWins.callGraph_cg] at h
  exact h

/-- the core of C05; `¬ N`: some function body may report an error -/
theorem complete_core (H : Hyps e b funcs target) (ht : ImplTrans e)
    (hsat : (callGraph {} e b funcs target false none).unsat = [])
    (beh : Nat → Nat → List PVal → BehOut) (N : Prop) (hN : N → ∀ f n a, (beh f n a).err = none)
    (fuel : Nat) (hfuel : 2 ≤ fuel) (memo : List (Nat × Memo))
    (hmemo : N → ∀ p ∈ memo, p.2.res.err = none) (orc : List OrcItem) :
    let r := callWith (C01.stdCtx e b funcs target beh) (callGraph {} e b funcs target false none) target fuel
              (initSt (callGraph {} e b funcs target false none).cg memo orc)
    (∃ res, r.1 = .ok res) ∨ ((∃ ε, r.1 = .convErr ε) ∧ ¬ N) ∨ ((∃ ε res, r.1 = .targetErr ε res) ∧ ¬ N) ∨
      (∃ w, r.1 = .badOracle w) := by
  obtain ⟨m, rfl⟩ : ∃ m, fuel = m + 1 + 1 := ⟨fuel - 2, by omega⟩
  exact callWith_complete (facts_std H ht beh N hN) (callGraph {} e b funcs target false none) target rfl
    (ExactWins.callGraph_target e b funcs target) hsat (params_kept hsat beh) m _
    ((ctxStd_call beh).initSt_sinv H.toStd.typed N memo hmemo orc)

end

/-! ### value sets built by the model of `NewFunc` satisfy the two well-formedness conditions -/

def SetWF (vs : ValueSet) : Prop :=
  (vs.named.map (·.1)).Nodup ∧ (vs.hasStruct = false → vs.values = [])

theorem foldl_namedStep_nodup (vals : List SVal) :
    ∀ (m : List (String × SVal)), (m.map (·.1)).Nodup → ((vals.foldl namedStep m).map (·.1)).Nodup := by
  induction vals with
  | nil => intro m hm; exact hm
  | cons v vals ih =>
    intro m hm
    rw [List.foldl_cons]
    apply ih
    unfold namedStep
    split
    · exact ExactWins.mapSet_keys_nodup _ _ _ hm
    · exact hm

theorem newValueSet_setWF {ps : List Param} {vs : ValueSet} (h : newValueSet ps = .ok vs) : SetWF vs :=
  newValueSet_ok_elim ⟨by simp [ValueSet.nil], fun _ => rfl⟩
    (fun _ _ _ => ⟨foldl_namedStep_nodup _ [] (by simp), fun h => by cases h⟩) h

theorem newFunc_setWF {ins outs : List Param} {fs : FuncSig} (h : newFunc ins outs = .ok fs) :
    SetWF fs.input ∧ SetWF fs.output :=
  ⟨newValueSet_setWF (newFunc_ok' h).1, newValueSet_setWF (newFunc_ok' h).2.1⟩

end ArgMapper.Complete
