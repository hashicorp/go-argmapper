import ArgMapper.Model.Traverse
import ArgMapper.Proofs.GraphBasics
/-!
# Helper lemmas for `Props/C20.lean`: the callback-controlled DFS
-/
namespace ArgMapper.C20
open ArgMapper AGraph Traverse
variable {α : Type} [DecidableEq α]

/-- vertices whose out-edges the traversal explores: the start vertex and every vertex the callback
descended into, transitively -/
inductive Explored (g : AGraph α) (cb : α → DfsAct) (start : α) : α → Prop
  | start : Explored g cb start start
  | step {u w} : Explored g cb start u → g.hasEdge u w = true → w ≠ start → cb w = .descend →
      Explored g cb start w

/-- vertices that must be handed to the callback -/
def Reportable (g : AGraph α) (cb : α → DfsAct) (start w : α) : Prop :=
  w ≠ start ∧ ∃ u, Explored g cb start u ∧ g.hasEdge u w = true

end ArgMapper.C20

namespace ArgMapper.TraverseDfs
open ArgMapper AGraph Traverse C20
variable {α : Type} [DecidableEq α] {g : AGraph α} {cb : α → DfsAct} {start : α}

theorem explored_of_reach {start x : α} (h : Reach g start x) :
    Explored g (fun _ => DfsAct.descend) start x := by
  induction h with
  | refl => exact Explored.start
  | @step v w _ he ih =>
    by_cases hw : w = start
    · subst hw; exact Explored.start
    · exact Explored.step ih he hw rfl

/-! ## the invariant -/

structure Inv (g : AGraph α) (cb : α → DfsAct) (start : α) (s : DfsSt α) : Prop where
  nodup : s.visited.Nodup
  sub : ∀ x ∈ s.visited, x ∈ g.verts
  fuel : s.outOfFuel = false
  ab : s.aborted = true ↔ ∃ w ∈ s.log, cb w = .abort
  dn : (s.log.filter (fun w => decide (cb w = .descend))).Nodup
  dv : ∀ w ∈ s.log, cb w = .descend → w ∈ s.visited
  st : start ∈ s.visited
  ex : ∀ x ∈ s.visited, Explored g cb start x
  rep : ∀ w ∈ s.log, Reportable g cb start w
  vl : ∀ x ∈ s.visited, x = start ∨ x ∈ s.log

structure Rel (g : AGraph α) (s s' : DfsSt α) : Prop where
  vis : ∀ x ∈ s.visited, x ∈ s'.visited
  len : s.visited.length ≤ s'.visited.length
  log : ∀ x ∈ s.log, x ∈ s'.log
  ab : s'.aborted = false → s.aborted = false
  closed : s'.aborted = false → ∀ u ∈ s'.visited, u ∉ s.visited →
    ∀ w ∈ g.outs u, w ∈ s'.visited ∨ w ∈ s'.log

theorem Rel.refl (g : AGraph α) (s : DfsSt α) : Rel g s s :=
  ⟨fun _ h => h, Nat.le_refl _, fun _ h => h, fun h => h, fun _ _ hu hn => absurd hu hn⟩

theorem Rel.trans {s₁ s₂ s₃ : DfsSt α} (h₁ : Rel g s₁ s₂) (h₂ : Rel g s₂ s₃) :
    Rel g s₁ s₃ := by
  refine ⟨fun x hx => h₂.vis x (h₁.vis x hx), Nat.le_trans h₁.len h₂.len,
    fun x hx => h₂.log x (h₁.log x hx), fun h => h₁.ab (h₂.ab h), ?_⟩
  intro hab u hu hn w hw
  by_cases h2 : u ∈ s₂.visited
  · rcases h₁.closed (h₂.ab hab) u h2 hn w hw with h | h
    · exact Or.inl (h₂.vis w h)
    · exact Or.inr (h₂.log w h)
  · exact h₂.closed hab u hu h2 w hw

def RecSpec (g : AGraph α) (cb : α → DfsAct) (start : α) (n : Nat)
    (rec : α → DfsSt α → DfsSt α) : Prop :=
  ∀ v s, Inv g cb start { s with visited := v :: s.visited } →
    g.verts.length < n + s.visited.length →
    Inv g cb start (rec v s) ∧ Rel g s (rec v s) ∧ v ∈ (rec v s).visited

theorem Rel.of_visited_eq {s s' : DfsSt α} (hv : s'.visited = s.visited)
    (hl : ∀ x ∈ s.log, x ∈ s'.log) (ha : s'.aborted = false → s.aborted = false) : Rel g s s' :=
  ⟨fun _ h => hv ▸ h, Nat.le_of_eq (hv ▸ rfl), hl, ha, fun _ _ hu hn => absurd (hv ▸ hu) hn⟩

theorem Inv.report {s s' : DfsSt α} {w : α}
    (hI : Inv g cb start s) (hab : s.aborted = false) (hw : w ∉ s.visited)
    (hrep : Reportable g cb start w) (hwv : w ∈ g.verts)
    (hlog : s'.log = s.log ++ [w]) (hfuel : s'.outOfFuel = s.outOfFuel)
    (habort : s'.aborted = true ↔ cb w = .abort)
    (hvis : cb w ≠ .descend ∧ s'.visited = s.visited ∨ cb w = .descend ∧ s'.visited = w :: s.visited) :
    Inv g cb start s' := by
  have hl : ∀ x ∈ s.log, x ∈ s'.log := fun x hx => hlog ▸ List.mem_append_left _ hx
  have hwl : w ∈ s'.log := hlog ▸ List.mem_append_right _ (List.mem_singleton_self _)
  have hcases : ∀ x ∈ s'.log, x ∈ s.log ∨ x = w := fun x hx =>
    (List.mem_append.1 (hlog ▸ hx)).imp_right List.mem_singleton.1
  have hab' : s'.aborted = true ↔ ∃ x ∈ s'.log, cb x = .abort := by
    refine habort.trans ⟨fun h => ⟨w, hwl, h⟩, fun ⟨x, hx, h⟩ => ?_⟩
    rcases hcases x hx with hx | rfl
    · -- nothing reported so far aborts
      rw [hI.ab.2 ⟨x, hx, h⟩] at hab; cases hab
    · exact h
  have hdn : (s'.log.filter (fun w => decide (cb w = .descend))).Nodup := by
    rw [hlog, List.filter_append]
    refine List.nodup_append.2 ⟨hI.dn, List.filter_sublist.nodup
      (List.nodup_cons.2 ⟨List.not_mem_nil, List.nodup_nil⟩), fun a ha b hb e => ?_⟩
    have ha := List.mem_filter.1 ha
    have hb := List.mem_singleton.1 (List.mem_filter.1 hb).1
    exact hw (hb ▸ e ▸ hI.dv a ha.1 (of_decide_eq_true ha.2))
  have hrep' : ∀ x ∈ s'.log, Reportable g cb start x := fun x hx =>
    (hcases x hx).elim (hI.rep x) (fun e => e ▸ hrep)
  rcases hvis with ⟨hnd, hv⟩ | ⟨hd, hv⟩
  · refine ⟨hv ▸ hI.nodup, hv ▸ hI.sub, hfuel.trans hI.fuel, hab', hdn, fun x hx hdx => ?_,
      hv ▸ hI.st, hv ▸ hI.ex, hrep', fun x hx => (hI.vl x (hv ▸ hx)).imp_right (hl x)⟩
    rcases hcases x hx with hx | rfl
    · exact hv ▸ hI.dv x hx hdx
    · exact absurd hdx hnd
  · refine ⟨hv ▸ List.nodup_cons.2 ⟨hw, hI.nodup⟩, hv ▸ List.forall_mem_cons.2 ⟨hwv, hI.sub⟩,
      hfuel.trans hI.fuel, hab', hdn, fun x hx hdx => ?_, hv ▸ List.mem_cons_of_mem _ hI.st,
      hv ▸ List.forall_mem_cons.2 ⟨?_, hI.ex⟩, hrep',
      hv ▸ List.forall_mem_cons.2 ⟨Or.inr hwl, fun x hx => (hI.vl x hx).imp_right (hl x)⟩⟩
    · rcases hcases x hx with hx | rfl
      · exact hv ▸ List.mem_cons_of_mem _ (hI.dv x hx hdx)
      · exact hv ▸ List.mem_cons_self
    · obtain ⟨hne, u, hu, he⟩ := hrep
      exact Explored.step hu he hne hd

theorem step_spec (hwf : g.WF) {n : Nat}
    {rec : α → DfsSt α → DfsSt α} (hrec : RecSpec g cb start n rec) (s0 : DfsSt α) (v w : α)
    (hI : Inv g cb start s0) (hv : v ∈ s0.visited) (hw : w ∈ g.outs v)
    (hf : g.verts.length < n + s0.visited.length) :
    Inv g cb start (dfsStep cb rec s0 w) ∧ Rel g s0 (dfsStep cb rec s0 w) ∧
      ((dfsStep cb rec s0 w).aborted = false →
        w ∈ (dfsStep cb rec s0 w).visited ∨ w ∈ (dfsStep cb rec s0 w).log) := by
  have hedge : g.hasEdge v w = true := mem_outs.mp hw
  have hwv : w ∈ g.verts := (hasEdge_verts hwf hedge).2
  unfold dfsStep
  split
  · rename_i hab
    exact ⟨hI, Rel.refl g s0, fun h => by simp [hab] at h⟩
  split
  · rename_i hab hvis
    exact ⟨hI, Rel.refl g s0, fun _ => Or.inl hvis⟩
  rename_i hab hvis
  have hab' : s0.aborted = false := by simpa using hab
  have hrepw : Reportable g cb start w := ⟨fun e => hvis (e ▸ hI.st), v, hI.ex v hv, hedge⟩
  have hlog : ∀ x ∈ s0.log, x ∈ s0.log ++ [w] := fun x hx => List.mem_append_left _ hx
  have hwlog : w ∈ s0.log ++ [w] := List.mem_append_right _ (List.mem_singleton_self _)
  split
  · -- descend
    rename_i hcb
    have hI' : Inv g cb start
        { ({ s0 with log := s0.log ++ [w] } : DfsSt α) with visited := w :: s0.visited } :=
      hI.report hab' hvis hrepw hwv rfl rfl (by simp [hab', hcb]) (Or.inr ⟨hcb, rfl⟩)
    obtain ⟨h1, h2, h3⟩ := hrec w { s0 with log := s0.log ++ [w] } hI' hf
    exact ⟨h1, (Rel.of_visited_eq (s := s0) (s' := { s0 with log := s0.log ++ [w] }) rfl hlog id).trans h2,
      fun _ => Or.inl h3⟩
  · -- skip
    rename_i hcb
    exact ⟨hI.report hab' hvis hrepw hwv rfl rfl (by simp [hab', hcb]) (Or.inl ⟨by simp [hcb], rfl⟩),
      Rel.of_visited_eq rfl hlog id, fun _ => Or.inr hwlog⟩
  · -- abort
    rename_i hcb
    exact ⟨hI.report hab' hvis hrepw hwv rfl rfl (by simp [hcb]) (Or.inl ⟨by simp [hcb], rfl⟩),
      Rel.of_visited_eq rfl hlog (fun h => by cases h), fun h => by cases h⟩

theorem fold_spec (hwf : g.WF) {n : Nat}
    {rec : α → DfsSt α → DfsSt α} (hrec : RecSpec g cb start n rec) (v : α) (l : List α)
    (s0 : DfsSt α) (hI : Inv g cb start s0) (hv : v ∈ s0.visited) (hl : ∀ w ∈ l, w ∈ g.outs v)
    (hf : g.verts.length < n + s0.visited.length) :
    Inv g cb start (l.foldl (dfsStep cb rec) s0) ∧ Rel g s0 (l.foldl (dfsStep cb rec) s0) ∧
    ((l.foldl (dfsStep cb rec) s0).aborted = false →
      ∀ w ∈ l, w ∈ (l.foldl (dfsStep cb rec) s0).visited ∨
        w ∈ (l.foldl (dfsStep cb rec) s0).log) := by
  induction l generalizing s0 with
  | nil => exact ⟨hI, Rel.refl g s0, fun _ w hw => absurd hw List.not_mem_nil⟩
  | cons w l ih =>
    obtain ⟨h1, h2, h3⟩ := step_spec hwf hrec s0 v w hI hv (hl w List.mem_cons_self) hf
    obtain ⟨k1, k2, k3⟩ := ih (dfsStep cb rec s0 w) h1 (h2.vis v hv)
      (fun x hx => hl x (List.mem_cons_of_mem _ hx)) (Nat.lt_of_lt_of_le hf (Nat.add_le_add_left h2.len n))
    refine ⟨k1, h2.trans k2, fun hab x hx => ?_⟩
    rcases List.mem_cons.mp hx with rfl | hx
    · rcases h3 (k2.ab hab) with h | h
      · exact Or.inl (k2.vis _ h)
      · exact Or.inr (k2.log _ h)
    · exact k3 hab x hx

theorem dfs_spec (hwf : g.WF) (cb : α → DfsAct) (start : α) (n : Nat) :
    RecSpec g cb start n (dfs g cb n) := by
  induction n with
  | zero =>
    intro v s hI hf
    have := hI.nodup.length_le_of_subset hI.sub
    rw [List.length_cons] at this
    omega
  | succ n ih =>
    intro v s hI hf
    obtain ⟨h1, h2, h3⟩ := fold_spec hwf ih v (g.outs v) { s with visited := v :: s.visited } hI
      List.mem_cons_self (fun _ h => h) (by rw [List.length_cons]; omega)
    show Inv g cb start ((g.outs v).foldl (dfsStep cb (dfs g cb n)) { s with visited := v :: s.visited })
      ∧ Rel g s ((g.outs v).foldl (dfsStep cb (dfs g cb n)) { s with visited := v :: s.visited })
      ∧ v ∈ ((g.outs v).foldl (dfsStep cb (dfs g cb n)) { s with visited := v :: s.visited }).visited
    refine ⟨h1, ?_, h2.vis v List.mem_cons_self⟩
    refine ⟨fun x hx => h2.vis x (List.mem_cons_of_mem _ hx), ?_, h2.log, h2.ab, ?_⟩
    · exact Nat.le_trans (Nat.le_succ _) h2.len
    · intro hab u hu hn w hw
      by_cases huv : u = v
      · subst huv; exact h3 hab w hw
      · exact h2.closed hab u hu (fun h => (List.mem_cons.1 h).elim huv hn) w hw

/-! ## top-level consequences -/

theorem DFS_spec (hwf : g.WF) (cb : α → DfsAct) (start : α) (hs : start ∈ g.verts) :
    Inv g cb start (DFS g cb start) ∧
      ((DFS g cb start).aborted = false → ∀ u ∈ (DFS g cb start).visited,
        ∀ w ∈ g.outs u, w ∈ (DFS g cb start).visited ∨ w ∈ (DFS g cb start).log) := by
  have hI : Inv g cb start
      { ({ visited := [], log := [], aborted := false } : DfsSt α) with
        visited := start :: ({ visited := [], log := [], aborted := false } : DfsSt α).visited } := by
    refine ⟨by simp, by simp [hs], rfl, by simp, by simp, by simp, by simp, ?_, by simp, by simp⟩
    intro x hx; simp at hx; subst hx; exact Explored.start
  obtain ⟨h1, h2, _⟩ := dfs_spec hwf cb start (g.verts.length + 1) start _ hI (Nat.lt_succ_self _)
  exact ⟨h1, fun hab u hu w hw => h2.closed hab u hu (by simp) w hw⟩

end ArgMapper.TraverseDfs
