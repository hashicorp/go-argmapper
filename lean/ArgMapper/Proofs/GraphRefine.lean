import ArgMapper.Proofs.GraphOps
/-!
# Refinement proof for C19: the heap-of-maps model simulates the adjacency specification
-/
namespace ArgMapper
namespace GraphSpec
variable {α : Type} [DecidableEq α]
open AGraph GraphImpl C19
variable {w : World α} {s : SpecWorld α}

omit [DecidableEq α] in
/-- the premise on the operation in `C19.copy_independent`: a mutator, acting on handle `k` -/
theorem mutates_of_match {op : GOp α} {k : Nat}
    (hop : match op with
      | .add k' _ _ | .addow k' _ _ | .edge k' _ _ _ | .redge k' _ _ | .remove k' _ => k' = k
      | _ => False) : op.mutates = some k := by
  cases op with
  | new | copy | reverse => exact absurd hop id
  | _ => exact congrArg some hop

theorem copy_indep (s : SpecWorld α) (h : Nat) (op : GOp α)
    (hop : match op with
      | .add k _ _ | .addow k _ _ | .edge k _ _ _ | .redge k _ _ | .remove k _ => k = s.handles.length
      | _ => False)
    (c : Nat) (hc : c < s.classes.length) :
    (specStep (specStep s (.copy h)) op).classes[c]? = s.classes[c]? := by
  -- the new handle is the only one on the new class, which has the index `s.classes.length ≠ c`
  have hk : ((specStep s (.copy h)).handle s.handles.length).1 = s.classes.length :=
    congrArg Prod.fst (push_handle_new s _ _ _)
  rw [specStep_mut _ (mutates_of_match hop)]
  simp only [SpecWorld.setCls, hk]
  rw [List.getElem?_set_ne (by omega)]
  exact List.getElem?_append_left hc

/-! ### the simulation along a history -/

theorem sim_step (hs : Sim w s) (op : GOp α) {rest : List (GOp α)}
    (hok : HandlesOk s (op :: rest)) (hn : NoPois (specStep s op)) :
    Sim (implStep true w op) (specStep s op) := by
  have hok := hok.1
  cases op with
  | new => exact sim_new hs
  | add h v tag =>
    obtain ⟨hs1, a, b, c, hgv, _⟩ := hs.init hok
    exact sim_addCore hs1 hok hgv v tag
  | addow h v tag =>
    obtain ⟨hs1, a, b, c, hgv, _⟩ := hs.init hok
    exact sim_addowCore hs1 hok hgv v tag
  | edge h u v wt =>
    obtain ⟨hs1, a, b, c, hgv, _⟩ := hs.init hok
    have hp := edge_present (hs.cok h hok) hn
    obtain ⟨w', w1, e, hsim⟩ := sim_edgeCore hs1 hok hgv u v wt hp
    simp only [implStep, edge_eq, e]
    exact hsim
  | redge h u v =>
    obtain ⟨hs1, a, b, c, hgv, _⟩ := hs.init hok
    exact sim_redgeCore hs1 hok hgv u v
  | remove h v => exact sim_remove hs hok v
  | copy h => exact sim_copy hs hok
  | reverse h => exact sim_reverse hs hok

theorem run_sim (ops : List (GOp α)) : ∀ {w : World α} {s : SpecWorld α}, Sim w s → HandlesOk s ops →
    NoPois (ops.foldl specStep s) → Sim (ops.foldl (implStep true) w) (ops.foldl specStep s) := by
  induction ops with
  | nil => intro w s hs _ _; exact hs
  | cons op ops ih =>
    intro w s hs hok hn
    simp only [List.foldl_cons] at hn ⊢
    exact ih (sim_step hs op hok (noPois_of_foldl ops hn)) hok.2 hn

/-! ### what the invariant says about observations -/

omit [DecidableEq α] in
theorem view_verts (s : SpecWorld α) (h : Nat) : (s.view h).verts = (s.cls h).g.verts := by
  unfold SpecWorld.view
  split <;> rfl

theorem view_weight (s : SpecWorld α) (h : Nat) (u v : α) :
    (s.view h).weight u v = clsW (s.cls h) (s.handle h).2 u v := by
  unfold SpecWorld.view clsW
  cases (s.handle h).2
  · rfl
  · simp [weight_reverse]

theorem run_obs (ops : List (GOp α)) (hok : HandlesOk SpecWorld.empty ops) (hn : NoPois (specRun ops)) :
    Sim (implRun true ops) (specRun ops) :=
  run_sim ops Sim.empty hok hn

end GraphSpec
end ArgMapper
