import ArgMapper.Proofs.ReachPlan
import ArgMapper.Proofs.EdgeRules
import ArgMapper.Proofs.WalkEqs
/-!
# What a search returns, and the paths it walks (namespace `ArgMapper.Complete`, continued in `WalkLadder.lean`)

A usable path of an oracle item is the root followed by a real path (`Chain`) that ends in the requirement
(`validPath_chain`); `GoodPath` is what a walk needs to know of it.

`ROut c I E k r`: the result `r` of a search for the requirements of `func k` fails only with an error in `E`;
on success the state satisfies `I` and the argument map is type sound and covers every requirement of the
vertex but the root.  The requirements `reach` skips are covered from the start (`ROut.nothingMissing`), the
others by the paths of the oracle item (`ROut.of_paths`), walked one after the other (`walkPaths_out`).
-/
namespace ArgMapper.Complete
open ArgMapper ReachEqs ReachSound WalkEqs

/-! ### real paths -/

def Chain (g : AGraph Vtx) : Vtx → List Vtx → Prop
  | _, [] => True
  | u, v :: rest => g.hasEdge v u = true ∧ Chain g v rest

theorem chain_of_isPathB (g : AGraph Vtx) (rest : List Vtx) (a : Vtx)
    (hp : AGraph.isPathB g.reverse (a :: rest) = true) : Chain g a rest := by
  induction rest generalizing a with
  | nil => trivial
  | cons b rest' ih =>
    simp only [AGraph.isPathB, Bool.and_eq_true] at hp
    exact ⟨(AGraph.hasEdge_reverse _ _ _).symm.trans hp.1, ih b hp.2⟩

theorem chain_avoids (g : AGraph Vtx) (t : Vtx) (hnt : ∀ x, g.hasEdge x t = false) (rest : List Vtx) (u : Vtx)
    (hc : Chain g u rest) (hl : ∀ l, rest.getLast? = some l → l ≠ t) : ∀ v ∈ rest, v ≠ t := by
  induction rest generalizing u with
  | nil => intro v hv; cases hv
  | cons a rest' ih =>
    intro v hv
    cases rest' with
    | nil =>
      simp only [List.mem_singleton] at hv
      subst hv
      exact hl _ rfl
    | cons b rest'' =>
      rcases List.mem_cons.1 hv with rfl | hv
      · intro h
        have := hc.2.1
        rw [h, hnt] at this
        cases this
      · exact ih _ hc.2 (fun l h => hl l (by rw [List.getLast?_cons_cons]; exact h)) v hv

theorem validPath_cons {g : AGraph Vtx} {cur : Vtx} {p : List Vtx} (h : validPath g cur p = true) :
    ∃ rest, p = .root :: rest ∧ Chain g .root rest := by
  obtain ⟨hhead, _, hpath⟩ := validPath_iff.1 h
  cases p with
  | nil => cases hhead
  | cons a rest =>
    cases hhead
    exact ⟨rest, rfl, chain_of_isPathB g rest .root hpath⟩

theorem validPath_chain {g : AGraph Vtx} {cur : Vtx} {p : List Vtx} (h : validPath g cur p = true)
    (hcur : cur.isValue = true ∨ cur.isArg = true) :
    ∃ rest, p = .root :: rest ∧ rest ≠ [] ∧ Chain g .root rest ∧ rest.getLast? = some cur := by
  have hl := validPath_last h
  obtain ⟨rest, rfl, hch⟩ := validPath_cons h
  cases rest with
  | nil =>
    cases hl
    rcases hcur with h | h <;> cases h
  | cons b r =>
    rw [List.getLast?_cons_cons] at hl
    exact ⟨b :: r, rfl, by simp, hch, hl⟩

theorem validPath_avoids {g : AGraph Vtx} {cur : Vtx} {p : List Vtx} (h : validPath g cur p = true)
    (hcur : cur.isValue = true ∨ cur.isArg = true) {t : Nat} (hnt : ∀ x, g.hasEdge x (.func t) = false) :
    ∀ v ∈ p, v ≠ .func t := by
  obtain ⟨rest, rfl, _, hch, hl⟩ := validPath_chain h hcur
  intro v hv
  rcases List.mem_cons.1 hv with rfl | hv
  · exact fun h => by cases h
  · refine chain_avoids g _ hnt rest .root hch (fun l h hlt => ?_) v hv
    rw [hl] at h
    cases h
    rw [hlt] at hcur
    rcases hcur with h | h <;> cases h

def GoodPath (c : Ctx) (First Q : Vtx → Prop) (p : List Vtx) : Prop :=
  ∃ rest, p = .root :: rest ∧ Chain c.g .root rest ∧ (∀ v ∈ rest, Q v) ∧
    (∀ v, rest.head? = some v → First v) ∧
    (∃ l, rest.getLast? = some l ∧ (l.isValue = true ∨ l.isArg = true))

theorem GoodPath.of_valid {c : Ctx} {First Q : Vtx → Prop} {cur : Vtx} {p : List Vtx}
    (h : validPath c.g cur p = true) (hcur : cur.isValue = true ∨ cur.isArg = true) (hQ : ∀ v ∈ p, Q v)
    (hfirst : ∀ y rest, p = .root :: y :: rest → c.g.hasEdge y .root = true → First y) :
    GoodPath c First Q p := by
  obtain ⟨rest, rfl, hne, hch, hl⟩ := validPath_chain h hcur
  refine ⟨rest, rfl, hch, fun v hv => hQ v (List.mem_cons_of_mem _ hv), fun y hy => ?_, ⟨cur, hl, hcur⟩⟩
  cases rest with
  | nil => cases hy
  | cons y' rest' => cases hy; exact hfirst y rest' rfl hch.1

theorem GoodPath.of_item {c : Ctx} {First Q : Vtx → Prop} (hedge : EdgeOK c.env c.g) {s : CallSt} {k : Nat}
    {item : OrcItem} (ok : ItemOK c s (.func k) item)
    (hQ : ∀ cp ∈ item.missing.zip item.paths, ∀ v ∈ cp.2, Q v)
    (hfirst : ∀ y, c.g.hasEdge y .root = true → First y) : ∀ p ∈ item.paths, GoodPath c First Q p := by
  intro p hp
  obtain ⟨cur, hcur, hz⟩ := ok.req_of_path hp
  exact .of_valid (ok.valid (cur, p) hz) (missing_kind hedge hcur) (hQ (cur, p) hz) (fun y _ _ hy => hfirst y hy)

/-- at the top level the planning loop reports nothing: the resolution stack holds the target's vertex only,
which has no in-edge -/
theorem plan_unsat_top {c : Ctx} (htr : c.trackReaching = true) (hedge : EdgeOK c.env c.g) {tk : Nat}
    (hnt : ∀ x, c.g.hasEdge x (.func tk) = false) {s : CallSt} {item : OrcItem}
    (ok : ItemOK c s (.func tk) item) (rd : Bool) (st : CallSt) :
    (plan c rd [] (.func tk) item st).unsat = [] :=
  plan_unsat_nil htr _ _ _ _ _ (fun cp hcp v hv hmem =>
    validPath_avoids (ok.valid cp hcp) (missing_kind hedge (ok.fst_missing hcp)) hnt v hv
      (List.mem_singleton.1 hmem))

/-! ### argument maps -/

def AmOK (c : Ctx) (am : ArgMap) : Prop := ∀ x a, mapGet am x = some a → c.env.assignable a.ty x.ty = true

theorem AmOK.am0 {c : Ctx} {s : CallSt} (h : ∀ x v, s.get x = some v → c.env.assignable v.ty x.ty = true)
    (target : Vtx) : AmOK c (am0 c s target) :=
  fun x a hx => h x a (am0_get hx)

theorem AmOK.set {c : Ctx} {am : ArgMap} (ham : AmOK c am) {l : Vtx} {x : PVal}
    (h : c.env.assignable x.ty l.ty = true) : AmOK c (mapSet am l x) := by
  intro y a hy
  rw [mapGet_mapSet] at hy
  split at hy
  · rename_i hyl
    cases hy
    rw [hyl]
    exact h
  · exact ham y a hy

/-! ### results -/

def ROut (c : Ctx) (I : CallSt → Prop) (E : RErr → Prop) (k : Nat) (r : Except RErr ArgMap × CallSt) : Prop :=
  (∀ e, r.1 = .error e → E e) ∧
  (∀ am, r.1 = .ok am → AmOK c am ∧ I r.2 ∧
    ∀ y ∈ c.g.outs (.func k), y ≠ .root → (mapGet am y).isSome = true)

def PathsOut (M : ArgMap → Prop) (I : CallSt → Prop) (E : RErr → Prop) (paths : List (List Vtx)) (am : ArgMap)
    (r : Except RErr ArgMap × CallSt) : Prop :=
  (∀ e, r.1 = .error e → E e) ∧
  (∀ am', r.1 = .ok am' → M am' ∧ I r.2 ∧
    (∀ x, (mapGet am x).isSome = true → (mapGet am' x).isSome = true) ∧
    ∀ p ∈ paths, ∀ l, p.getLast? = some l → (mapGet am' l).isSome = true)

variable {c : Ctx} {I : CallSt → Prop} {E : RErr → Prop} {k : Nat} {s : CallSt}

theorem ROut.error {e : RErr} (he : E e) (s' : CallSt) : ROut c I E k (.error e, s') :=
  ⟨fun e' h => by cases h; exact he, fun am h => by cases h⟩

theorem ROut.nothingMissing (hm : missing c s (.func k) = [])
    (hty : ∀ x v, s.get x = some v → c.env.assignable v.ty x.ty = true) {s' : CallSt} (hI : I s') :
    ROut c I E k (.ok (am0 c s (.func k)), s') := by
  refine ⟨fun e h => (by cases h), fun am h => ?_⟩
  cases h
  refine ⟨AmOK.am0 hty _, hI, fun y hy hyr => ?_⟩
  rcases skipped_or_missing s hy with h | h
  · exact am0_isSome h hyr
  · rw [hm] at h; cases h

theorem ROut.of_paths {item : OrcItem} (ok : ItemOK c s (.func k) item) {r : Except RErr ArgMap × CallSt}
    (h : PathsOut (AmOK c) I E item.paths (am0 c s (.func k)) r) : ROut c I E k r := by
  refine ⟨h.1, fun am ha => ?_⟩
  obtain ⟨k1, k2, k3, k4⟩ := h.2 am ha
  refine ⟨k1, k2, fun y hy hyr => ?_⟩
  rcases skipped_or_missing s hy with h | h
  · exact k3 y (am0_isSome h hyr)
  · obtain ⟨p, hp, hz⟩ := ok.path_of_missing h
    exact k4 p hp y (ok.last hz)

theorem walkPaths_out {M : ArgMap → Prop} {R : Vtx → PVal → Prop}
    (hM : ∀ am l x, M am → R l x → M (mapSet am l x))
    (rec : Vtx → CallSt → Except RErr ArgMap × CallSt) (paths : List (List Vtx))
    (hpath : ∀ p ∈ paths, ∀ s, I s →
      (∀ e, (walkPath c rec s p).err = some e → E e) ∧
      ((walkPath c rec s p).err = none → I (walkPath c rec s p).s ∧
        ∃ x l, (walkPath c rec s p).final = some x ∧ p.getLast? = some l ∧ R l x))
    (am : ArgMap) (s : CallSt) (hs : I s) (ham : M am) :
    PathsOut M I E paths am (walkPaths c rec paths am s) := by
  induction paths generalizing am s with
  | nil =>
    refine ⟨fun e h => (by cases h), fun am' h => ?_⟩
    cases h
    exact ⟨ham, hs, fun _ h => h, fun _ h => by cases h⟩
  | cons p rest ih =>
    obtain ⟨hE, hO⟩ := hpath p List.mem_cons_self s hs
    have hstep := walkPaths_cons c rec p rest am s
    generalize walkPaths c rec (p :: rest) am s = r at hstep ⊢
    cases hstep with
    | err he => exact ⟨fun e h => by cases h; exact hE _ he, fun am' h => by cases h⟩
    | noFinal he hn =>
      obtain ⟨_, x, l, hx, hl, _⟩ := hO he
      rcases hn with hn | hn
      · rw [hx] at hn; cases hn
      · rw [hl] at hn; cases hn
    | next he hf hl =>
      obtain ⟨hI, x', l', hx, hl', hty⟩ := hO he
      rw [hf] at hx
      rw [hl] at hl'
      cases hx
      cases hl'
      obtain ⟨j1, j2⟩ := ih (fun q hq => hpath q (List.mem_cons_of_mem _ hq)) _ _ hI (hM _ _ _ ham hty)
      refine ⟨j1, fun am' h => ?_⟩
      obtain ⟨k1, k2, k3, k4⟩ := j2 am' h
      refine ⟨k1, k2, fun y hy => k3 y ?_, fun q hq l' hl' => ?_⟩
      · rw [mapGet_mapSet]
        split
        · rfl
        · exact hy
      · rcases List.mem_cons.1 hq with rfl | hq
        · rw [hl] at hl'
          cases hl'
          exact k3 _ (by rw [mapGet_mapSet, if_pos rfl]; rfl)
        · exact k4 q hq l' hl'

end ArgMapper.Complete
