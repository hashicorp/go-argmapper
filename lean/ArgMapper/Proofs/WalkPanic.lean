import ArgMapper.Proofs.Complete
/-!
# The last modelled panic sites of `reachTarget` (helper lemmas for C06b, dynamic part)

For a context `c` whose graph satisfies `Facts` (the shape of every `Call` graph, full label language) the walk
invariants of `Proofs/WalkLadder.lean` hold with `Bad K` as the set of excluded errors.

Hence, for every oracle, `reflect.Value.Set` never sees a non-assignable value and every walked path ends with a
final value: an R6 hop copies the value, or there is no R6 edge (`Facts.noHop`).  Before the repair of finding F22
a hop copied nothing, and a path ending `…, value, value, arg` — which a shortest path never does, `PathGood` —
left the argument vertex empty (`WalkPanicCE.lean`).  The guard of `callDirect` (`missingArg`) is unreachable when
every requirement of an executed function is still a requirement of its vertex in the pruned graph (`Facts.reqs`,
under the proposition `K`).
-/
namespace ArgMapper.WalkPanic
open ArgMapper WalkEqs ReachSound ReachEqs Complete

/-- the three outcomes the property excludes (`missingArg` only under `K`) -/
def Bad (K : Prop) (e : RErr) : Prop :=
  e = .panic .finalValue ∨ e = .panic .setNotAssignable ∨ (K ∧ e = .missingArg)

/-- the path does not end `…, value, value, arg` (an R6 hop followed by a typed argument) -/
def PathGood (p : List Vtx) : Prop :=
  ∀ pre a b c, p = pre ++ [a, b, c] → a.isValue = true → b.isValue = true → c.isArg = true → False

def ItemOK (g : AGraph Vtx) (it : OrcItem) : Prop :=
  ∀ (i : Nat) (cur : Vtx) (path : List Vtx), it.missing[i]? = some cur → it.paths[i]? = some path → validPath g cur path = true →
    PathGood path

structure Facts (c : Ctx) (K : Prop) (Sup : Vtx → Prop) : Prop extends WalkFacts c False where
  sri : c.skipRecordsInput = false
  toRoot : ∀ x, c.g.hasEdge x .root = true → x.isFunc = true ∨ Sup x
  /-- under `K`: a function vertex that has an out-edge at all has every parameter as a requirement -/
  reqs : K → ∀ k f, c.funcOf k = some f → (∃ u, c.g.hasEdge (.func k) u = true) →
    ∀ v ∈ f.input.values, v.lab.vertex ∈ c.g.outs (.func k)

variable {c : Ctx} {K : Prop} {Sup : Vtx → Prop}

theorem not_bad_of_ne {e : RErr} (h1 : e ≠ .panic .finalValue) (h2 : e ≠ .panic .setNotAssignable)
    (h3 : e ≠ .missingArg) : ¬ Bad K e := by
  rintro (h | h | ⟨_, h⟩)
  · exact h1 h
  · exact h2 h
  · exact h3 h

theorem errOK (K : Prop) : ErrOK False K (fun e => ¬ Bad K e) where
  funcErr _ _ := not_bad_of_ne (by simp) (by simp) (by simp)
  missingArg hk := by
    rintro (h | h | ⟨hk', _⟩)
    · cases h
    · cases h
    · exact hk hk'
  badOracle _ := not_bad_of_ne (by simp) (by simp) (by simp)

/-! ### `reach` -/

theorem reach_spec (gf : Facts c K Sup) (n : Nat) : ∀ (reaching : List Vtx) (k : Nat) (s : CallSt),
    CInv c False Sup s → ROut c (CInv c False Sup) (fun e => ¬ Bad K e) k (reach c false n reaching (.func k) s) := by
  induction n with
  | zero => exact fun reaching k s hs => .error (not_bad_of_ne (by simp) (by simp) (by simp)) s
  | succ m ih =>
    intro reaching k s hs
    refine reach_step (Q := fun _ => True) gf.toWalkFacts (errOK K) gf.toRoot hs ?_ ?_ ?_
    · exact fun k' s' fin u _ hs' _ he =>
        ⟨fun _ => not_bad_of_ne (by simp) (by simp) (by simp), fun hk f hf => gf.reqs hk k' f hf ⟨u, he⟩,
         ih _ k' s' hs'⟩
    · exact fun item st ok hu => not_bad_of_ne (by simp) (by simp) (by simp)
    · exact fun item ok cp hcp _ _ => trivial

/-! ### `callWith` -/

theorem callWith_notBad (gf : Facts c K Sup) (cgr : CallGraphResult) (target : FuncDesc)
    (htv : cgr.target = .func target.key)
    (hpar : K → cgr.unsat = [] → ∀ v ∈ target.input.values, v.lab.vertex ∈ c.g.outs (.func target.key))
    (fuel : Nat) (s0 : CallSt) (hs : SInv c False Sup s0) :
    (callWith c cgr target fuel s0).1 ≠ .panic .finalValue ∧
    (callWith c cgr target fuel s0).1 ≠ .panic .setNotAssignable ∧
    (K → (callWith c cgr target fuel s0).1 ≠ .missingArg) := by
  rcases callWith_of_ROut (K := K) gf.toWalkFacts.hN htv (fun _ => reach_spec gf fuel [] target.key s0 ⟨hs, trivial⟩) hpar with
    ⟨res, h⟩ | ⟨⟨ε, res, h⟩, _⟩ | ⟨h, hk⟩ | ⟨_, h⟩ | ⟨e, he, h⟩ <;> rw [h]
  · exact ⟨by simp, by simp, fun _ => by simp⟩
  · exact ⟨by simp, by simp, fun _ => by simp⟩
  · exact ⟨by simp, by simp, fun hk' => absurd hk' hk⟩
  · exact ⟨by simp, by simp, fun _ => by simp⟩
  · cases e with
    | missingArg => exact ⟨by simp [outcomeOfErr], by simp [outcomeOfErr], fun hk => absurd (.inr (.inr ⟨hk, rfl⟩)) he⟩
    | panic pk =>
      refine ⟨fun h => ?_, fun h => ?_, fun _ => by simp [outcomeOfErr]⟩
      · cases h; exact he (.inl rfl)
      · cases h; exact he (.inr (.inl rfl))
    | _ => exact ⟨by simp [outcomeOfErr], by simp [outcomeOfErr], fun _ => by simp [outcomeOfErr]⟩

end ArgMapper.WalkPanic
