import ArgMapper.Proofs.DijkstraExact
/-!
# C07 at the Dijkstra level: legal pop orders, any weights

`pop_unch` / `pop_edge` characterise one `pop` on a well-formed graph.  On top of them three small
invariants, each preserved by a legal step under explicit side conditions:

* `Root`   — the source is popped first, its predecessor stays `none`;
* `Merge`  — a vertex with a distinguished best in-neighbour: once that one is popped the distance and
             predecessor are final;
* `Fresh`  — a vertex none of whose in-neighbours is visited is still at `MaxInt32`.

The side conditions are discharged once, for vertices `Tied` to the source by a chain of
only-in-neighbour links (`tied_pred`) and for a vertex all of whose in-neighbours are tied below a
common ancestor (`merge_pred`); the families of `Props/C07a.lean` are instances.
-/
namespace ArgMapper.C07

/-- weights far from the `int32` bounds -/
def Small (w : Int) : Prop := -1000000 ≤ w ∧ w ≤ 1000000

end ArgMapper.C07

namespace ArgMapper.AffinityProofs
open ArgMapper AGraph Dijkstra DijkstraProofs C07
variable {α : Type} [DecidableEq α]
variable {g : AGraph α} {s : DSt α}

theorem wrap32_add {d w : Int} (hd : -100000000 ≤ d ∧ d ≤ 100000000) (hw : Small w) :
    wrap32 (d + wrap32 w) = d + w := by
  unfold Small at hw
  rw [wrap32_small (x := w) (by omega) (by omega), wrap32_small (by omega) (by omega)]

/-! ### legal steps -/

omit [DecidableEq α] in
theorem not_pop_of_lt {v x z : α} (hl : LegalStep g s v)
    (hz : z ∈ g.verts) (hzv : z ∉ s.visited) (hlt : s.dist z < s.dist x) : v ≠ x := by
  rintro rfl
  rcases hl.2.2 z hz with h | h
  · exact hzv h
  · omega

/-! ### one `pop` on a well-formed graph -/

theorem pop_unch (hwf : g.WF) (s : DSt α) (v x : α)
    (h : x ∈ v :: s.visited ∨ ∀ w, g.weight v x ≠ some w) :
    (pop g s v).dist x = s.dist x ∧ (pop g s v).prev x = s.prev x := by
  have sp := pop_spec g s v
  rcases h with h | h
  · exact sp.frozen x h
  · rcases sp.cases x with hc | ⟨_, _, w, hw, _, _⟩
    · exact hc
    · exact absurd ((weight_iff_outsW hwf).1 hw) (h w)

theorem pop_edge (hwf : g.WF) (s : DSt α) (v x : α) (w : Int)
    (hw : g.weight v x = some w) (hx : x ∉ v :: s.visited) :
    (wrap32 (s.dist v + wrap32 w) < s.dist x →
      (pop g s v).dist x = wrap32 (s.dist v + wrap32 w) ∧ (pop g s v).prev x = some v) ∧
    (s.dist x ≤ wrap32 (s.dist v + wrap32 w) →
      (pop g s v).dist x = s.dist x ∧ (pop g s v).prev x = s.prev x) := by
  have sp := pop_spec g s v
  have hr := sp.relaxed x w ((weight_iff_outsW hwf).2 hw) hx
  rcases sp.cases x with hc | ⟨_, hp, w', hw', hd, hlt⟩
  · refine ⟨fun hlt => ?_, fun _ => hc⟩
    rw [hc.1] at hr; omega
  · have hww : w' = w := by
      have h2 := (weight_iff_outsW hwf).1 hw'
      rw [hw] at h2; cases h2; rfl
    subst hww
    exact ⟨fun _ => ⟨hd, hp⟩, fun hle => by omega⟩

theorem pop_trichotomy (g : AGraph α) (s : DSt α) (v x : α) :
    (x ∈ v :: s.visited ∨ ∀ w, g.weight v x ≠ some w) ∨
    ∃ w, g.weight v x = some w ∧ x ∉ v :: s.visited := by
  by_cases hx : x ∈ v :: s.visited
  · exact Or.inl (Or.inl hx)
  · cases hq : g.weight v x with
    | none => exact Or.inl (Or.inr (fun w hw => by cases hw))
    | some w => exact Or.inr ⟨w, rfl, hx⟩

/-! ### `Root` -/

def Root (s : DSt α) (r : α) : Prop :=
  s.prev r = none ∧ (r ∉ s.visited → s.dist r = 0 ∧ ∀ x, x ≠ r → s.dist x = maxInt32)

theorem root_init (r : α) : Root (init r) r :=
  ⟨rfl, fun _ => ⟨by simp [init], fun x hx => by simp [init, hx]⟩⟩

omit [DecidableEq α] in
theorem root_first {r v : α} (hR : Root s r) (hr : r ∈ g.verts)
    (hl : LegalStep g s v) (hrv : r ∉ s.visited) : v = r := by
  apply Classical.byContradiction
  intro hne
  obtain ⟨h0, hmax⟩ := hR.2 hrv
  rcases hl.2.2 r hr with h | h
  · exact hrv h
  · rw [hmax v hne, h0] at h; simp [maxInt32] at h

theorem root_step {r v : α} (hR : Root s r) (hr : r ∈ g.verts)
    (hl : LegalStep g s v) : Root (pop g s v) r := by
  have hv := pop_visited g s v
  have hfro := (pop_spec g s v).frozen
  by_cases hrv : r ∈ s.visited
  · refine ⟨((hfro r (List.mem_cons_of_mem _ hrv)).2).trans hR.1, fun h => ?_⟩
    rw [hv] at h
    exact absurd (List.mem_cons_of_mem _ hrv) h
  · have hvr : v = r := root_first hR hr hl hrv
    subst hvr
    refine ⟨(hfro v (List.mem_cons_self ..)).2.trans hR.1, fun h => ?_⟩
    rw [hv] at h
    exact absurd (List.mem_cons_self ..) h

/-! ### `Merge` -/

def Merge (s : DSt α) (x b : α) (D L : Int) : Prop :=
  (b ∉ s.visited → x ∉ s.visited ∧ L ≤ s.dist x) ∧
  (b ∈ s.visited → s.dist x = D ∧ s.prev x = some b)

theorem merge_init {r x b : α} (D : Int) {L : Int} (hx : x ≠ r) (hL : L ≤ maxInt32) :
    Merge (init r) x b D L :=
  ⟨fun _ => ⟨by simp [init], by simp [init, hx, hL]⟩, fun h => by simp [init] at h⟩

theorem merge_step (hwf : g.WF) {v x b : α} {D L wb : Int}
    (hM : Merge s x b D L) (hDL : D < L) (hxb : x ≠ b) (hw : g.weight b x = some wb)
    (hv : v ∉ s.visited) (hearly : v = x → b ∈ s.visited)
    (hb : v = b → wrap32 (s.dist b + wrap32 wb) = D)
    (hoth : v ≠ b → ∀ w, g.weight v x = some w → L ≤ wrap32 (s.dist v + wrap32 w)) :
    Merge (pop g s v) x b D L := by
  have hvis := pop_visited g s v
  by_cases hvb : v = b
  · subst hvb
    obtain ⟨hxv, hdx⟩ := hM.1 hv
    have hx : x ∉ v :: s.visited := by simp [hxb, hxv]
    have h2 := (pop_edge hwf s v x wb hw hx).1 (by rw [hb rfl]; omega)
    rw [hb rfl] at h2
    refine ⟨fun h => ?_, fun _ => h2⟩
    rw [hvis] at h
    exact absurd (List.mem_cons_self ..) h
  · have key := pop_trichotomy g s v x
    refine ⟨fun h => ?_, fun h => ?_⟩
    · rw [hvis] at h ⊢
      simp only [List.mem_cons, not_or] at h ⊢
      obtain ⟨h1, h2⟩ := hM.1 h.2
      have hvx : ¬ x = v := fun hxv => h.2 (hearly hxv.symm)
      refine ⟨⟨hvx, h1⟩, ?_⟩
      rcases key with hk | ⟨w, hw', hx⟩
      · rw [(pop_unch hwf s v x hk).1]; exact h2
      · have hL := hoth hvb w hw'
        have pe := pop_edge hwf s v x w hw' hx
        by_cases hlt : wrap32 (s.dist v + wrap32 w) < s.dist x
        · rw [(pe.1 hlt).1]; exact hL
        · rw [(pe.2 (by omega)).1]; exact h2
    · rw [hvis] at h
      rcases List.mem_cons.1 h with h | h
      · exact absurd h.symm hvb
      · obtain ⟨h1, h2⟩ := hM.2 h
        rcases key with hk | ⟨w, hw', hx⟩
        · have h3 := pop_unch hwf s v x hk
          exact ⟨h3.1.trans h1, h3.2.trans h2⟩
        · have hL := hoth hvb w hw'
          have h3 := (pop_edge hwf s v x w hw' hx).2 (by omega)
          exact ⟨h3.1.trans h1, h3.2.trans h2⟩

/-! ### `Fresh` -/

def Fresh (g : AGraph α) (s : DSt α) (x : α) : Prop :=
  (∀ y w, g.weight y x = some w → y ∉ s.visited) → s.dist x = maxInt32

theorem fresh_init (g : AGraph α) {r x : α} (hx : x ≠ r) : Fresh g (init r) x :=
  fun _ => by simp [init, hx]

theorem fresh_step (hwf : g.WF) {v x : α} (hF : Fresh g s x) :
    Fresh g (pop g s v) x := by
  intro h
  rw [pop_visited] at h
  have h1 : ∀ w, g.weight v x ≠ some w := fun w hw => h v w hw (List.mem_cons_self ..)
  rw [(pop_unch hwf s v x (Or.inr h1)).1]
  exact hF (fun y w hw hy => h y w hw (List.mem_cons_of_mem _ hy))

/-! ### vertices tied to the source

A vertex is *tied* when a chain of vertices leads to it from the source in which every vertex has
the one before it as its only in-neighbour.  Whatever the signs of the weights, a legal pop order
visits such a chain in order and gives every vertex on it the weight of the chain as distance. -/

def Only (g : AGraph α) (p x : α) (w : Int) : Prop :=
  g.weight p x = some w ∧ ∀ y w', g.weight y x = some w' → y = p

/-- `Tied g r x d A`: `x` is tied to `r` by a chain of weight `d`; `A` lists the chain from the
parent of `x` back to `r`.  The weights are `Small` and the chain has at most a hundred links, so
that no `int32` sum along it wraps. -/
inductive Tied (g : AGraph α) (r : α) : α → Int → List α → Prop
  | root : Tied g r r 0 []
  | link {p x : α} {dp w : Int} {A : List α} : Tied g r p dp A → Only g p x w → x ≠ r → x ≠ p →
      Small w → A.length < 100 → Tied g r x (dp + w) (p :: A)

theorem Tied.range {r x : α} {d : Int} {A : List α} (h : Tied g r x d A) :
    -100000000 ≤ d ∧ d ≤ 100000000 := by
  have hb : (-1000000 * (A.length : Int) ≤ d ∧ d ≤ 1000000 * (A.length : Int)) ∧ A.length ≤ 100 := by
    induction h with
    | root => simp
    | link _ _ _ _ hw hlen ih =>
      unfold Small at hw
      simp only [List.length_cons]
      omega
  omega

theorem Tied.mem_verts (hwf : g.WF) {r x : α} {d : Int} {A : List α}
    (hr : r ∈ g.verts) (h : Tied g r x d A) : x ∈ g.verts := by
  cases h with
  | root => exact hr
  | link _ ho => exact (weight_verts hwf ho.1).2

def TiedInv (g : AGraph α) (r : α) (s : DSt α) : Prop :=
  Root s r ∧ ∀ x p d A, Tied g r x d (p :: A) → Merge s x p d maxInt32

theorem tiedInv_init (g : AGraph α) (r : α) : TiedInv g r (init r) := by
  refine ⟨root_init r, fun x p d A h => ?_⟩
  cases h with
  | link _ _ hxr => exact merge_init _ hxr (Int.le_refl _)

section
variable {r : α}

theorem Tied.unvisited_below (hI : TiedInv g r s) {m : α} (hm : m ∉ s.visited) {y : α} {d : Int}
    {A : List α} (h : Tied g r y d A) (hmA : m ∈ A) : y ∉ s.visited := by
  induction h with
  | root => cases hmA
  | @link p x dp w A hp ho hxr hxp hw hd ih =>
    refine ((hI.2 x p _ A (.link hp ho hxr hxp hw hd)).1 ?_).1
    rcases List.mem_cons.1 hmA with rfl | hmA
    · exact hm
    · exact ih hmA

/-- the first unvisited vertex of the chain has its final distance already -/
theorem Tied.exists_lt (hwf : g.WF) (hr : r ∈ g.verts) (hI : TiedInv g r s) {x : α} {d : Int}
    {A : List α} (h : Tied g r x d A) (hx : x ∉ s.visited) :
    ∃ y ∈ g.verts, y ∉ s.visited ∧ s.dist y < maxInt32 := by
  induction h with
  | root => exact ⟨r, hr, hx, by rw [(hI.1.2 hx).1]; decide⟩
  | @link p x dp w A hp ho hxr hxp hw hd ih =>
    by_cases hpv : p ∈ s.visited
    · have hx' := Tied.link hp ho hxr hxp hw hd
      refine ⟨x, (weight_verts hwf ho.1).2, hx, ?_⟩
      rw [((hI.2 x p _ A hx').2 hpv).1]
      have := hx'.range
      unfold maxInt32; omega
    · exact ih hpv

theorem Tied.pop (hwf : g.WF) (hr : r ∈ g.verts) (hI : TiedInv g r s) {v : α} (hl : LegalStep g s v)
    {d : Int} {A : List α} (h : Tied g r v d A) : s.dist v = d ∧ ∀ p ∈ A.head?, p ∈ s.visited := by
  cases h with
  | root => exact ⟨(hI.1.2 hl.2.1).1, fun p hp => by cases hp⟩
  | @link p _ dp w A hp ho hxr hxp hw hd =>
    have hT := hI.2 v p _ A (.link hp ho hxr hxp hw hd)
    have hpv : p ∈ s.visited := by
      apply Classical.byContradiction
      intro hpv
      obtain ⟨y, hy, hyv, hlt⟩ := hp.exists_lt hwf hr hI hpv
      exact not_pop_of_lt hl hy hyv (Int.lt_of_lt_of_le hlt (hT.1 hpv).2) rfl
    exact ⟨(hT.2 hpv).1, fun q hq => by cases hq; exact hpv⟩

theorem tiedInv_step (hwf : g.WF) (hr : r ∈ g.verts) (hI : TiedInv g r s) {v : α}
    (hl : LegalStep g s v) : TiedInv g r (pop g s v) := by
  refine ⟨root_step hI.1 hr hl, fun x p d A h => ?_⟩
  have hT := hI.2 x p d A h
  have hd := h.range
  cases h with
  | @link _ _ dp w _ hp ho hxr hxp hw hd =>
    refine merge_step hwf hT (by unfold maxInt32; omega) hxp ho.1 hl.2.1 ?_ ?_
      (fun hvp w' hw' => absurd (ho.2 v w' hw') hvp)
    · intro hvx
      exact ((Tied.link hp ho hxr hxp hw hd).pop hwf hr hI (hvx ▸ hl)).2 p rfl
    · intro hvp
      subst hvp
      rw [(hp.pop hwf hr hI hl).1]
      exact wrap32_add hp.range hw

end

theorem tied_pred (hwf : g.WF) {r : α} (hr : r ∈ g.verts) {pops : List α}
    (hleg : LegalPops g r pops) :
    (run g r pops).prev r = none ∧
    ∀ {x p d A}, Tied g r x d (p :: A) → (run g r pops).prev x = some p ∧ (run g r pops).dist x = d := by
  obtain ⟨hI, hall⟩ := run_inv (TiedInv g r) (fun s v hI hl => tiedInv_step hwf hr hI hl)
    (tiedInv_init g r) hleg
  refine ⟨hI.1.1, fun {x p d A} h => ?_⟩
  have hp : p ∈ g.verts := by
    cases h with
    | link hp => exact hp.mem_verts hwf hr
  exact ((hI.2 x p d A h).2 (hall p hp)).symm

/-- `x` is not popped while `b` is unvisited: as long as `m` is unvisited so are all in-neighbours
of `x`, so `x` is still at `MaxInt32` while some vertex of the chain to `b` is not; once `m` is
visited, `b` is at `db`, below the bound `K` kept on `dist x`. -/
theorem merge_not_early (hwf : g.WF) {r : α} (hr : r ∈ g.verts)
    (hI : TiedInv g r s) {m b x : α} {db D K : Int} {A : List α} (hb : Tied g r b db (m :: A))
    (hbK : db < K) (hM : Merge s x b D K) (hF : Fresh g s x)
    (hin : ∀ y w, g.weight y x = some w → y ≠ b → ∃ dy Ay, Tied g r y dy Ay ∧ m ∈ y :: Ay)
    {v : α} (hl : LegalStep g s v) (hbv : b ∉ s.visited) : v ≠ x := by
  obtain ⟨_, hKx⟩ := hM.1 hbv
  by_cases hmv : m ∈ s.visited
  · have := ((hI.2 b m db A hb).2 hmv).1
    exact not_pop_of_lt hl (hb.mem_verts hwf hr) hbv (by omega)
  · have hfresh : s.dist x = maxInt32 := hF fun y w hw => by
      by_cases hyb : y = b
      · exact hyb ▸ hbv
      · obtain ⟨dy, Ay, hy, hmy⟩ := hin y w hw hyb
        rcases List.mem_cons.1 hmy with rfl | hmy
        · exact hmv
        · exact hy.unvisited_below hI hmv hmy
    obtain ⟨y, hy, hyv, hlt⟩ := hb.exists_lt hwf hr hI hbv
    exact not_pop_of_lt hl hy hyv (hfresh ▸ hlt)

theorem merge_pred (hwf : g.WF) {r : α} (hr : r ∈ g.verts) {pops : List α}
    (hleg : LegalPops g r pops) {m b x : α} {db wx : Int} {A : List α}
    (hb : Tied g r b db (m :: A)) (hbx : g.weight b x = some wx) (hwx : Small wx)
    (hxr : x ≠ r) (hxb : x ≠ b)
    (hin : ∀ y w, g.weight y x = some w → y ≠ b →
      ∃ dy Ay, Tied g r y dy Ay ∧ m ∈ y :: Ay ∧ Small w ∧ db + wx < dy + w ∧ db < dy + w) :
    (run g r pops).prev x = some b := by
  -- the bound kept on `dist x` while `b` is unvisited: just above `b` and its offer
  obtain ⟨K, hDK, hbK, hKo, hK⟩ : ∃ K, db + wx < K ∧ db < K ∧
      (∀ z, db + wx < z → db < z → K ≤ z) ∧ K ≤ maxInt32 := by
    have := hb.range
    unfold Small at hwx
    by_cases h : wx < 0
    · exact ⟨db + 1, by omega, by omega, fun z _ h2 => by omega, by unfold maxInt32; omega⟩
    · exact ⟨db + wx + 1, by omega, by omega, fun z h1 _ => by omega, by unfold maxInt32; omega⟩
  have hstep : ∀ s v, (TiedInv g r s ∧ Merge s x b (db + wx) K ∧ Fresh g s x) → LegalStep g s v →
      (TiedInv g r (pop g s v) ∧ Merge (pop g s v) x b (db + wx) K ∧ Fresh g (pop g s v) x) := by
    rintro s v ⟨hI, hM, hF⟩ hl
    refine ⟨tiedInv_step hwf hr hI hl, ?_, fresh_step hwf hF⟩
    refine merge_step hwf hM hDK hxb hbx hl.2.1 (fun hvx => ?_) ?_ ?_
    · exact Classical.byContradiction fun hbv => merge_not_early hwf hr hI hb hbK hM hF
        (fun y w hw hyb => let ⟨dy, Ay, hy, hmy, _⟩ := hin y w hw hyb; ⟨dy, Ay, hy, hmy⟩)
        hl hbv hvx
    · intro hvb
      subst hvb
      rw [(hb.pop hwf hr hI hl).1]
      exact wrap32_add hb.range hwx
    · intro hvb w hw
      obtain ⟨dy, Ay, hy, _, hws, h1, h2⟩ := hin v w hw hvb
      rw [(hy.pop hwf hr hI hl).1, wrap32_add hy.range hws]
      exact hKo _ h1 h2
  obtain ⟨⟨_, hM, _⟩, hall⟩ := run_inv _ hstep
    ⟨tiedInv_init g r, merge_init _ hxr hK, fresh_init g hxr⟩ hleg
  exact (hM.2 (hall b (hb.mem_verts hwf hr))).2

end ArgMapper.AffinityProofs
