/-!
# Folds and zips

An invariant of the steps of a fold is an invariant of the fold; what `zip` pairs with a member of either list.
-/
namespace ArgMapper

theorem foldl_inv_mem {σ β : Type} (P : σ → Prop) (g : σ → β → σ) (l : List β)
    (hg : ∀ s, ∀ v ∈ l, P s → P (g s v)) (s : σ) (h : P s) : P (l.foldl g s) := by
  induction l generalizing s with
  | nil => exact h
  | cons a l ih =>
    exact ih (fun s v hv => hg s v (List.mem_cons_of_mem _ hv)) _ (hg s a List.mem_cons_self h)

theorem foldl_inv {σ β : Type} (P : σ → Prop) (g : σ → β → σ) (hg : ∀ s v, P s → P (g s v))
    (l : List β) (s : σ) (h : P s) : P (l.foldl g s) :=
  foldl_inv_mem P g l (fun s v _ => hg s v) s h

/-- what the step at a member of the list establishes and every later step keeps holds, after the fold, of
every member; `D a b` is what is known of a later member `b` -/
theorem foldl_mem {σ β : Type} (g : σ → β → σ) (R : β → σ → Prop) (D : β → β → Prop)
    (hstep : ∀ s b, R b (g s b)) (hkeep : ∀ s b b', D b b' → R b s → R b (g s b')) (l : List β)
    (hd : l.Pairwise D) (s : σ) : ∀ b ∈ l, R b (l.foldl g s) := by
  induction l generalizing s with
  | nil => exact fun _ hb => nomatch hb
  | cons a l ih =>
    rw [List.pairwise_cons] at hd
    intro b hb
    rcases List.mem_cons.1 hb with rfl | hb
    · exact foldl_inv_mem (R b) g l (fun s b' hb' h => hkeep s b b' (hd.1 b' hb') h) _ (hstep s b)
    · exact ih hd.2 _ b hb

theorem zip_snd_mem {α β : Type} (l1 : List α) (l2 : List β) (hlen : l2.length = l1.length) (b : β)
    (hb : b ∈ l2) : ∃ a, a ∈ l1 ∧ (a, b) ∈ l1.zip l2 := by
  induction l1 generalizing l2 with
  | nil =>
    cases l2 with
    | nil => cases hb
    | cons _ _ => simp at hlen
  | cons a l1 ih =>
    cases l2 with
    | nil => cases hb
    | cons b' l2 =>
      rcases List.mem_cons.1 hb with rfl | hb
      · exact ⟨a, by simp, by simp⟩
      · obtain ⟨a', h1, h2⟩ := ih l2 (by simpa using hlen) hb
        exact ⟨a', List.mem_cons_of_mem _ h1, by simp [h2]⟩

theorem exists_zip_of_mem {α β : Type} (l1 : List α) (l2 : List β) (hlen : l1.length ≤ l2.length) (a : α)
    (ha : a ∈ l1) : ∃ b, (a, b) ∈ l1.zip l2 := by
  induction l1 generalizing l2 with
  | nil => cases ha
  | cons a' l1 ih =>
    cases l2 with
    | nil => simp at hlen
    | cons b' l2 =>
      rcases List.mem_cons.1 ha with rfl | ha
      · exact ⟨b', by simp⟩
      · obtain ⟨b, hb⟩ := ih l2 (by simpa using hlen) ha
        exact ⟨b, by simp [hb]⟩

theorem eq_of_length_le_one {α : Type} {l : List α} (h : l.length ≤ 1) {a b : α} (ha : a ∈ l) (hb : b ∈ l) :
    a = b := by
  match l, h with
  | [], _ => cases ha
  | [x], _ =>
    simp only [List.mem_singleton] at ha hb
    rw [ha, hb]
  | _ :: _ :: _, h => simp at h

theorem inj_of_nodup_map {β γ : Type} {f : β → γ} {l : List β} (hnd : (l.map f).Nodup)
    {a b : β} (ha : a ∈ l) (hb : b ∈ l) (hab : f a = f b) : a = b := by
  have hp : l.Pairwise (fun a b => f a = f b → a = b) :=
    (List.pairwise_map.1 hnd).imp (fun hne he => absurd he hne)
  exact List.Pairwise.forall_of_forall_of_flip (fun _ _ _ => rfl) hp
    (hp.imp (fun h e => (h e.symm).symm)) ha hb hab

end ArgMapper
