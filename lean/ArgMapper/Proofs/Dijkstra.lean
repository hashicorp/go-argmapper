import ArgMapper.Proofs.DijkstraPath
/-!
# Helper lemmas for C18: what one `pop` does, the predecessor-tree invariant, `chainAux`
-/
namespace ArgMapper.DijkstraProofs
open ArgMapper AGraph Dijkstra
variable {α : Type} [DecidableEq α]
variable {g : AGraph α}

/-! ### one relaxation, a fold of relaxations, one `pop` -/

theorem relax_one (u : α) (du : Int) (s : DSt α) (e : α × Int) :
    (relax u du s e).visited = s.visited ∧
    (∀ x, ((relax u du s e).dist x = s.dist x ∧ (relax u du s e).prev x = s.prev x) ∨
      (x = e.1 ∧ x ∉ s.visited ∧ (relax u du s e).prev x = some u ∧
        (relax u du s e).dist x = wrap32 (du + wrap32 e.2) ∧
        (relax u du s e).dist x < s.dist x)) ∧
    (e.1 ∉ s.visited → (relax u du s e).dist e.1 ≤ wrap32 (du + wrap32 e.2)) := by
  unfold relax
  split
  · rename_i hv
    exact ⟨rfl, fun x => Or.inl ⟨rfl, rfl⟩, fun h => absurd hv h⟩
  · rename_i hv
    split
    · -- the entry of `e.1` is overwritten: `DSt.set` is an `if` on the key
      rename_i hlt
      refine ⟨rfl, fun x => ?_, fun _ => Int.le_of_eq (if_pos rfl)⟩
      by_cases hx : x = e.1
      · have hd : (DSt.set s e.1 u (wrap32 (du + wrap32 e.2))).dist x = wrap32 (du + wrap32 e.2) :=
          if_pos hx
        exact Or.inr ⟨hx, hx ▸ hv, if_pos hx, hd, by rw [hd, hx]; exact hlt⟩
      · exact Or.inl ⟨if_neg hx, if_neg hx⟩
    · rename_i hlt
      exact ⟨rfl, fun x => Or.inl ⟨rfl, rfl⟩, fun _ => Int.not_lt.1 hlt⟩

/-- the effect of relaxing a list `l` of out-edges of `u` on a state with visited set `V`,
distances `d` and predecessors `p` -/
structure RelaxSpec (u : α) (du : Int) (l : List (α × Int)) (V : List α) (d : α → Int)
    (p : α → Option α) (s' : DSt α) : Prop where
  vis : s'.visited = V
  frozen : ∀ x, x ∈ V → s'.dist x = d x ∧ s'.prev x = p x
  mono : ∀ x, s'.dist x ≤ d x
  relaxed : ∀ x w, (x, w) ∈ l → x ∉ V → s'.dist x ≤ wrap32 (du + wrap32 w)
  cases : ∀ x, (s'.dist x = d x ∧ s'.prev x = p x) ∨
    (x ∉ V ∧ s'.prev x = some u ∧
      ∃ w, (x, w) ∈ l ∧ s'.dist x = wrap32 (du + wrap32 w) ∧ s'.dist x < d x)

theorem relax_fold_spec (u : α) (du : Int) (l : List (α × Int)) (s : DSt α) :
    RelaxSpec u du l s.visited s.dist s.prev (l.foldl (relax u du) s) := by
  induction l generalizing s with
  | nil =>
    exact ⟨rfl, fun _ _ => ⟨rfl, rfl⟩, fun _ => Int.le_refl _, fun x w h => absurd h List.not_mem_nil,
      fun _ => Or.inl ⟨rfl, rfl⟩⟩
  | cons e l ih =>
    have ih := ih (relax u du s e)
    obtain ⟨h1v, h1c, h1r⟩ := relax_one u du s e
    simp only [List.foldl_cons]
    generalize l.foldl (relax u du) (relax u du s e) = s' at ih
    generalize relax u du s e = s1 at ih h1v h1c h1r
    have h1mono : ∀ x, s1.dist x ≤ s.dist x := by
      intro x
      rcases h1c x with h | h
      · rw [h.1]; exact Int.le_refl _
      · omega
    refine ⟨ih.vis.trans h1v, ?_, ?_, ?_, ?_⟩
    · intro x hx
      have h2 := ih.frozen x (h1v ▸ hx)
      rcases h1c x with h | h
      · exact ⟨h2.1.trans h.1, h2.2.trans h.2⟩
      · exact absurd hx h.2.1
    · intro x
      have := ih.mono x
      have := h1mono x
      omega
    · intro x w hm hx
      rcases List.mem_cons.1 hm with h | h
      · subst h
        have := h1r hx
        have := ih.mono x
        simp only at *
        omega
      · have := ih.relaxed x w h (h1v ▸ hx)
        exact this
    · intro x
      rcases ih.cases x with h2 | ⟨h2v, h2p, w, hw, h2d, h2lt⟩
      · rcases h1c x with h | ⟨hxe, hxv, hp, hd, hlt⟩
        · exact Or.inl ⟨h2.1.trans h.1, h2.2.trans h.2⟩
        · refine Or.inr ⟨hxv, h2.2.trans hp, e.2, ?_, h2.1.trans hd, by omega⟩
          rw [hxe]; exact List.mem_cons_self ..
      · refine Or.inr ⟨h1v ▸ h2v, h2p, w, List.mem_cons_of_mem _ hw, h2d, ?_⟩
        have := h1mono x
        omega

theorem pop_spec (g : AGraph α) (s : DSt α) (u : α) :
    RelaxSpec u (s.dist u) (g.outsW u) (u :: s.visited) s.dist s.prev (pop g s u) :=
  relax_fold_spec u (s.dist u) (g.outsW u) { s with visited := u :: s.visited }

theorem pop_visited (g : AGraph α) (s : DSt α) (u : α) :
    (pop g s u).visited = u :: s.visited := (pop_spec g s u).vis

theorem foldl_pop_visited (g : AGraph α) (pops : List α) (s : DSt α) :
    (pops.foldl (pop g) s).visited = pops.reverse ++ s.visited := by
  induction pops generalizing s with
  | nil => rfl
  | cons u pops ih =>
    rw [List.foldl_cons, ih, pop_visited, List.reverse_cons, List.append_assoc]
    rfl

theorem run_visited (g : AGraph α) (src : α) (pops : List α) :
    (run g src pops).visited = pops.reverse := by
  unfold run
  rw [foldl_pop_visited]
  simp [init]

/-! ### legal pop orders -/

def LegalStep (g : AGraph α) (s : DSt α) (v : α) : Prop :=
  v ∈ g.verts ∧ v ∉ s.visited ∧ ∀ x ∈ g.verts, x ∈ s.visited ∨ s.dist v ≤ s.dist x

theorem legalFrom_cons (g : AGraph α) (s : DSt α) (u : α) (rest : List α) :
    legalFrom g s (u :: rest) = true ↔ LegalStep g s u ∧ legalFrom g (pop g s u) rest = true := by
  simp only [legalFrom, LegalStep, Bool.and_eq_true, decide_eq_true_eq, Bool.not_eq_true',
    decide_eq_false_iff_not, List.all_eq_true, Bool.or_eq_true, and_assoc]

theorem legal_foldl_inv (P : DSt α → Prop)
    (hstep : ∀ s v, P s → LegalStep g s v → P (pop g s v)) :
    ∀ (pops : List α) (s : DSt α), P s → legalFrom g s pops = true → P (pops.foldl (pop g) s)
  | [], _, h, _ => h
  | u :: pops, s, h, hl =>
    have ⟨hu, hrest⟩ := (legalFrom_cons g s u pops).1 hl
    legal_foldl_inv P hstep pops _ (hstep s u h hu) hrest

theorem run_inv {r : α} {pops : List α} (P : DSt α → Prop)
    (hstep : ∀ s v, P s → LegalStep g s v → P (pop g s v)) (h0 : P (init r))
    (hleg : LegalPops g r pops) :
    P (run g r pops) ∧ ∀ x, x ∈ g.verts → x ∈ (run g r pops).visited := by
  refine ⟨legal_foldl_inv P hstep pops _ h0 hleg.1, fun x hx => ?_⟩
  rw [run_visited]
  exact List.mem_reverse.2 (hleg.2.2 x hx)

/-! ### the predecessor-tree invariant (all weights, any duplicate-free pop order) -/

structure TInv (g : AGraph α) (s : DSt α) (rank : α → Nat) : Prop where
  bound_vis : ∀ x, x ∈ s.visited → rank x < s.visited.length
  bound_unvis : ∀ x, x ∉ s.visited → rank x = s.visited.length
  prev_ok : ∀ x u, s.prev x = some u → u ∈ s.visited ∧ rank u < rank x ∧ g.hasEdge u x = true

theorem tinv_init (g : AGraph α) (src : α) : TInv g (init src) (fun _ => 0) :=
  ⟨fun x h => by simp [init] at h, fun x _ => by simp [init], fun x u h => by simp [init] at h⟩

theorem tinv_pop {s : DSt α} {rank : α → Nat} (h : TInv g s rank) {u : α}
    (hu : u ∉ s.visited) :
    TInv g (pop g s u) (fun x => if x ∈ s.visited then rank x else if x = u then s.visited.length
      else s.visited.length + 1) := by
  have sp := pop_spec g s u
  have hv : (pop g s u).visited = u :: s.visited := sp.vis
  refine ⟨?_, ?_, ?_⟩
  · intro x hx
    rw [hv] at hx ⊢
    simp only [List.length_cons]
    by_cases hxv : x ∈ s.visited
    · simp only [hxv, if_true]; have := h.bound_vis x hxv; omega
    · rcases List.mem_cons.1 hx with rfl | hx'
      · simp [hxv]
      · exact absurd hx' hxv
  · intro x hx
    rw [hv] at hx ⊢
    simp only [List.mem_cons, not_or] at hx
    simp [hx.1, hx.2]
  · intro x w hp
    have hrw : ∀ w, w ∈ s.visited → (if w ∈ s.visited then rank w else if w = u then
        s.visited.length else s.visited.length + 1) = rank w := by
      intro w hw; simp [hw]
    rcases sp.cases x with ⟨_, hpe⟩ | ⟨hxv, hpe, w', hw', _, _⟩
    · rw [hpe] at hp
      obtain ⟨hwv, hlt, he⟩ := h.prev_ok x w hp
      refine ⟨hv ▸ List.mem_cons_of_mem _ hwv, ?_, he⟩
      rw [hrw w hwv]
      by_cases hxv : x ∈ s.visited
      · simpa [hxv] using hlt
      · have := h.bound_vis w hwv
        simp only [hxv, if_false]
        split <;> omega
    · rw [hpe] at hp
      cases hp
      simp only [List.mem_cons, not_or] at hxv
      refine ⟨hv ▸ List.mem_cons_self .., ?_, hasEdge_of_mem (mem_outsW.1 hw')⟩
      simp [hu, hxv.1, hxv.2]

theorem tinv_foldl (g : AGraph α) (pops : List α) (s : DSt α) (rank : α → Nat)
    (h : TInv g s rank) (hnd : pops.Nodup) (hdis : ∀ x ∈ pops, x ∉ s.visited) :
    ∃ rank', TInv g (pops.foldl (pop g) s) rank' := by
  induction pops generalizing s rank with
  | nil => exact ⟨rank, h⟩
  | cons u pops ih =>
    rw [List.nodup_cons] at hnd
    refine ih _ _ (tinv_pop h (hdis u List.mem_cons_self)) hnd.2 (fun x hx => ?_)
    rw [pop_visited]
    exact fun hm => (List.mem_cons.1 hm).elim (fun e => hnd.1 (e ▸ hx))
      (hdis x (List.mem_cons_of_mem _ hx))

theorem tinv_run (g : AGraph α) (src : α) (pops : List α) (hnd : pops.Nodup) :
    ∃ rank, TInv g (run g src pops) rank :=
  tinv_foldl g pops _ _ (tinv_init g src) hnd (fun x _ => by simp [init])

/-! ### predecessor chains -/

def PChain (prev : α → Option α) : List α → Prop
  | [] => True
  | [_] => True
  | a :: b :: rest => prev b = some a ∧ PChain prev (b :: rest)

omit [DecidableEq α] in
theorem chainAux_spec (prev : α → Option α) (rank : α → Nat)
    (hr : ∀ x u, prev x = some u → rank u < rank x) (fuel : Nat) (v : α) (acc : List α)
    (h : rank v < fuel) (hc : PChain prev (v :: acc)) :
    ∃ l, chainAux prev fuel v acc = l ++ v :: acc ∧ PChain prev (l ++ v :: acc) ∧
      ∃ r, (l ++ v :: acc).head? = some r ∧ prev r = none := by
  induction fuel generalizing v acc with
  | zero => exact absurd h (Nat.not_lt_zero _)
  | succ n ih =>
    unfold chainAux
    cases hp : prev v with
    | none => exact ⟨[], rfl, hc, v, rfl, hp⟩
    | some u =>
      obtain ⟨l, h1, h2, h3⟩ := ih u (v :: acc)
        (Nat.lt_of_lt_of_le (hr v u hp) (Nat.le_of_lt_succ h)) ⟨hp, hc⟩
      have e : l ++ [u] ++ v :: acc = l ++ u :: v :: acc := List.append_assoc l [u] (v :: acc)
      exact ⟨l ++ [u], e ▸ h1, e ▸ h2, e ▸ h3⟩

theorem isPath_of_pchain {prev : α → Option α}
    (he : ∀ x u, prev x = some u → g.hasEdge u x = true) (p : List α) (h : PChain prev p) :
    IsPath g p := by
  induction p with
  | nil => trivial
  | cons a p ih =>
    cases p with
    | nil => trivial
    | cons b rest => exact ⟨he b a h.1, ih h.2⟩

/-- everything `tree` needs, in one statement about `edgeToPath` -/
theorem tree_aux (g : AGraph α) (src : α) (pops : List α) (hnd : pops.Nodup) (v : α) :
    PChain (run g src pops).prev (edgeToPath (run g src pops).prev (pops.length + 1) v) ∧
    IsPath g (edgeToPath (run g src pops).prev (pops.length + 1) v) ∧
    (edgeToPath (run g src pops).prev (pops.length + 1) v).getLast? = some v ∧
    ∃ r, (edgeToPath (run g src pops).prev (pops.length + 1) v).head? = some r ∧
      (run g src pops).prev r = none := by
  obtain ⟨rank, hT⟩ := tinv_run g src pops hnd
  have hlen : (run g src pops).visited.length = pops.length := by
    rw [run_visited]; simp
  have hrk : rank v < pops.length + 1 := by
    by_cases hv : v ∈ (run g src pops).visited
    · have := hT.bound_vis v hv; omega
    · have := hT.bound_unvis v hv; omega
  obtain ⟨l, h1, h2, r, h3, h4⟩ := chainAux_spec (run g src pops).prev rank
    (fun x u h => (hT.prev_ok x u h).2.1) (pops.length + 1) v [] hrk trivial
  unfold edgeToPath
  rw [h1]
  refine ⟨h2, isPath_of_pchain (fun x u h => (hT.prev_ok x u h).2.2) _ h2, by simp, r, h3, h4⟩

omit [DecidableEq α] in
theorem pchain_all {prev : α → Option α} {G : α → Prop}
    (hG : ∀ x u, G x → prev x = some u → G u) (p : List α) (v : α) (hc : PChain prev p)
    (hl : p.getLast? = some v) (hv : G v) : ∀ x ∈ p, G x := by
  induction p with
  | nil => cases hl
  | cons a p ih =>
    intro x hx
    cases p with
    | nil =>
      cases hl
      exact List.mem_singleton.1 hx ▸ hv
    | cons b rest =>
      have ih := ih hc.2 (List.getLast?_cons_cons ▸ hl)
      rcases List.mem_cons.1 hx with rfl | hx
      · exact hG b x (ih b List.mem_cons_self) hc.1
      · exact ih x hx

theorem pchain_weight {prev : α → Option α} {dist : α → Int} (p : List α) (a v : α)
    (hc : PChain prev p)
    (hw : ∀ x ∈ p, ∀ u, prev x = some u → ∃ w, g.weight u x = some w ∧ dist x = dist u + w)
    (hh : p.head? = some a) (hl : p.getLast? = some v) : pathWeight g p = dist v - dist a := by
  induction p generalizing a with
  | nil => cases hh
  | cons x p ih =>
    cases hh
    cases p with
    | nil =>
      cases hl
      simp [pathWeight]
    | cons y rest =>
      have ih := ih y hc.2 (fun z hz => hw z (List.mem_cons_of_mem _ hz)) rfl
        (List.getLast?_cons_cons ▸ hl)
      obtain ⟨w, hw1, hw2⟩ := hw y (List.mem_cons_of_mem _ List.mem_cons_self) x hc.1
      simp only [pathWeight, hw1, Option.getD_some]
      omega

end ArgMapper.DijkstraProofs
