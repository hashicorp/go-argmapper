import ArgMapper.Spec.Flow
/-!
# Helper lemmas for C01: the matching table is closed under flow along the edge rules
-/
namespace ArgMapper.FlowCompat
open ArgMapper

theorem ruleFlow_isData {e : TypeEnv} {o x : Vtx} (h : RuleFlow e o x) : x.isData = true := by
  cases h with
  | here hd => exact hd
  | step hd _ _ => exact hd

theorem not_ruleFlow_root {e : TypeEnv} {o : Vtx} (h : RuleFlow e o .root) : False :=
  Bool.false_ne_true (ruleFlow_isData h)

theorem not_ruleFlow_func {e : TypeEnv} {o : Vtx} {k : Nat} (h : RuleFlow e o (.func k)) : False :=
  Bool.false_ne_true (ruleFlow_isData h)

theorem flow_ruleFlow {e : TypeEnv} {g : AGraph Vtx} (hg : EdgeOK e g) {o x : Vtx} (h : Flow g o x) :
    RuleFlow e o x := by
  induction h with
  | here hd => exact .here hd
  | step hd he _ ih => exact .step hd (hg _ _ he) ih

/-- what can flow to an out vertex -/
def OutReach (e : TypeEnv) (o : Vtx) (i : Nat) (s : String) : Prop :=
  ∃ t' s', o = .out t' s' ∧ ((t' = i ∧ s' = s) ∨ (e.isIface i = true ∧ e.impl t' i = true ∧ t' ≠ i))

theorem ruleFlow_out {e : TypeEnv} (ht : ImplTrans e) (ha : ImplAntisym e) {o : Vtx} {i : Nat} {s : String}
    (h : RuleFlow e o (.out i s)) : OutReach e o i s := by
  generalize hx : Vtx.out i s = x at h
  induction h generalizing i s with
  | here _ => exact ⟨i, s, hx.symm, .inl ⟨rfl, rfl⟩⟩
  | @step x y hd he hr ih =>
    subst hx
    cases he with
    | inputRoot _ _ => exact (not_ruleFlow_root hr).elim
    | outputFunc _ _ _ => exact (not_ruleFlow_func hr).elim
    | redefineRoot _ _ => exact (not_ruleFlow_root hr).elim
    | ifaceOut _ _ t' s' hi him hne =>
      obtain ⟨t'', s'', ho, hc⟩ := ih rfl
      refine ⟨t'', s'', ho, .inr ?_⟩
      rcases hc with ⟨h1, _⟩ | ⟨hi', him', hne'⟩
      · subst h1; exact ⟨hi, him, hne⟩
      · refine ⟨hi, ht _ _ _ him' him, ?_⟩
        intro heq
        subst heq
        exact hne (ha t' t'' hi' hi him him')

/-- what can flow to a value vertex -/
def ValueReach (e : TypeEnv) (o : Vtx) (n : String) (t : Nat) (s : String) : Prop :=
  o = .value n t s ∨ (∃ s', o = .value n t s' ∧ s = "" ∧ s' ≠ "") ∨
  (∃ t' s', o = .out t' s' ∧ ((t' = t ∧ s' = "") ∨ (e.isIface t = true ∧ e.impl t' t = true ∧ t' ≠ t)))

theorem ruleFlow_value {e : TypeEnv} (ht : ImplTrans e) (ha : ImplAntisym e) {o : Vtx} {n : String} {t : Nat}
    {s : String} (h : RuleFlow e o (.value n t s)) : ValueReach e o n t s := by
  generalize hx : Vtx.value n t s = x at h
  induction h generalizing s with
  | here _ => exact .inl hx.symm
  | @step x y hd he hr ih =>
    subst hx
    cases he with
    | inputRoot _ _ => exact (not_ruleFlow_root hr).elim
    | outputFunc _ _ _ => exact (not_ruleFlow_func hr).elim
    | redefineRoot _ _ => exact (not_ruleFlow_root hr).elim
    | valueOut _ _ _ =>
      obtain ⟨t', s', ho, hc⟩ := ruleFlow_out ht ha hr
      exact .inr (.inr ⟨t', s', ho, hc⟩)
    | valueValue _ _ s' hs' =>
      rcases ih rfl with h1 | ⟨s'', _, h2, _⟩ | h3
      · exact .inr (.inl ⟨s', h1, rfl, hs'⟩)
      · exact (hs' h2).elim
      · exact .inr (.inr h3)

/-- what can flow to an arg vertex -/
def ArgReach (e : TypeEnv) (o : Vtx) (t : Nat) (s : String) : Prop :=
  o = .arg t s ∨
  (∃ n s0, o = .value n t s0 ∧ (s = "" ∨ s = s0)) ∨
  (∃ t' s', o = .out t' s' ∧
    ((t' = t ∧ (s' = s ∨ s = "" ∨ s' = "")) ∨ (e.isIface t = true ∧ e.impl t' t = true ∧ t' ≠ t)))

theorem argReach_of_outReach {e : TypeEnv} {o : Vtx} {t : Nat} {s s' : String}
    (h : OutReach e o t s') (hs : s' = s ∨ s = "" ∨ s' = "") : ArgReach e o t s := by
  obtain ⟨t', s'', ho, hc⟩ := h
  refine .inr (.inr ⟨t', s'', ho, ?_⟩)
  rcases hc with ⟨h1, h2⟩ | hc
  · subst h1; subst h2; exact .inl ⟨rfl, hs⟩
  · exact .inr hc

theorem ruleFlow_arg {e : TypeEnv} (ht : ImplTrans e) (ha : ImplAntisym e) {o : Vtx} {t : Nat} {s : String}
    (h : RuleFlow e o (.arg t s)) : ArgReach e o t s := by
  cases h with
  | here _ => exact .inl rfl
  | step hd he hr =>
    cases he with
    | redefineRoot _ _ => exact (not_ruleFlow_root hr).elim
    | inputRoot _ _ => exact (not_ruleFlow_root hr).elim
    | outputFunc _ _ _ => exact (not_ruleFlow_func hr).elim
    | argValue n _ s0 _ hss =>
      rcases ruleFlow_value ht ha hr with h1 | ⟨s'', h2, hs, _⟩ | ⟨t', s'', ho', hc⟩
      · exact .inr (.inl ⟨n, s0, h1, hss⟩)
      · subst hs
        exact .inr (.inl ⟨n, s'', h2, .inl (hss.elim id id)⟩)
      · exact argReach_of_outReach (s' := "") ⟨t', s'', ho', hc⟩ (.inr (.inr rfl))
    | argOut _ _ => exact argReach_of_outReach (ruleFlow_out ht ha hr) (.inl rfl)
    | argOutSub _ _ s' hss =>
      exact argReach_of_outReach (ruleFlow_out ht ha hr) (hss.elim (fun h => .inr (.inl h.1)) fun h => .inr (.inr h.2))

/-! ### whatever flows is in the matching table -/

theorem compatB_iff {e : TypeEnv} {p o : Label} :
    compatB e p o = true ↔
      (p.name = "" ∨ o.name = "" ∨ p.name = o.name) ∧
      ((o.ty = p.ty ∧ (p.sub = o.sub ∨ p.sub = "" ∨ o.sub = "")) ∨
       (o.ty ≠ p.ty ∧ e.isIface p.ty = true ∧ e.impl o.ty p.ty = true)) := by
  simp only [compatB, Bool.and_eq_true, Bool.or_eq_true, beq_iff_eq, bne_iff_ne, ne_eq, or_assoc, and_assoc]

theorem compat_of_outReach {e : TypeEnv} {o : Vtx} {n : String} {t : Nat} {s s' : String}
    (h : OutReach e o t s') (hs : s = s' ∨ s = "" ∨ s' = "") :
    compatB e { name := n, ty := t, sub := s } o.label = true := by
  obtain ⟨t', s'', rfl, hc⟩ := h
  refine compatB_iff.2 ⟨.inr (.inl rfl), ?_⟩
  rcases hc with ⟨rfl, rfl⟩ | ⟨hi, him, hne⟩
  · exact .inl ⟨rfl, hs⟩
  · exact .inr ⟨hne, hi, him⟩

theorem flow_compat (e : TypeEnv) (ht : ImplTrans e) (ha : ImplAntisym e) (o x : Vtx)
    (ho : o.isOrigin = true) (hx : x.isValue = true ∨ x.isArg = true) (h : RuleFlow e o x) :
    compatB e x.label o.label = true := by
  cases x with
  | value n t s =>
    rcases ruleFlow_value ht ha h with rfl | ⟨s', rfl, rfl, _⟩ | ⟨t', s', ho, hc⟩
    · exact compatB_iff.2 ⟨.inr (.inr rfl), .inl ⟨rfl, .inl rfl⟩⟩
    · exact compatB_iff.2 ⟨.inr (.inr rfl), .inl ⟨rfl, .inr (.inl rfl)⟩⟩
    · exact compat_of_outReach (s' := "") ⟨t', s', ho, hc⟩ (.inr (.inr rfl))
  | arg t s =>
    rcases ruleFlow_arg ht ha h with rfl | ⟨n, s0, rfl, hs⟩ | ⟨t', s', rfl, hc⟩
    · cases ho
    · exact compatB_iff.2 ⟨.inl rfl, .inl ⟨rfl, hs.elim (fun h => .inr (.inl h)) .inl⟩⟩
    · refine compatB_iff.2 ⟨.inl rfl, ?_⟩
      rcases hc with ⟨rfl, hs⟩ | ⟨hi, him, hne⟩
      · exact .inl ⟨rfl, hs.elim (fun h => .inl h.symm) .inr⟩
      · exact .inr ⟨hne, hi, him⟩
  | _ => exact (hx.elim Bool.false_ne_true Bool.false_ne_true).elim

theorem Label.vertex_isParam (p : Label) : p.vertex.isValue = true ∨ p.vertex.isArg = true := by
  unfold Label.vertex
  split
  · exact .inl rfl
  · exact .inr rfl

theorem Label.vertex_label (p : Label) : p.vertex.label = p := by
  unfold Label.vertex
  split
  · rfl
  · next h =>
    have h' : p.name = "" := by simpa using h
    cases p
    simp only [Vtx.label] at *
    simp [h']

end ArgMapper.FlowCompat
