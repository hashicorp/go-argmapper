import ArgMapper.Props.C01b
import ArgMapper.Props.C18
import ArgMapper.Props.C20
import ArgMapper.Proofs.Args
import ArgMapper.Proofs.Prune
import ArgMapper.Proofs.ReachEqs
import ArgMapper.Proofs.ExecEqs
/-!
# Helper lemmas for C03 (exact matches win)

* the weighted edge characterisation `WRule` of the graph before pruning, read off the places where
  `callGraph` creates edges;
* the value store `inputsGraph` writes, and what it holds at an exactly supplied parameter;
* `gatherArgs` when every argument is there;
* the pruned graph `fin` of a `Call` and the context that runs on it;
* builders produced by `build` are well formed (`build_BOK`).
-/
namespace ArgMapper.ExactWins
open ArgMapper Generated

/-! ### the weighted edge rules -/

def RuleOK (R : Vtx → Vtx → Int → Prop) (g : AGraph Vtx) : Prop :=
  ∀ x y w, g.weight x y = some w → R x y w

/-- dependent → requirement, with the weight the rule assigns; `fs` are the function objects whose
graphs are built, `ins` the vertices of the supplied values -/
inductive WRule (fs : List FuncDesc) (ins : List Vtx) : Vtx → Vtx → Int → Prop
  | funcRoot (f : FuncDesc) : f ∈ fs → WRule fs ins (.func f.key) .root weightNormal
  | funcNamed (f : FuncDesc) (v : SVal) : f ∈ fs → v ∈ f.input.values → v.lab.name ≠ "" →
      WRule fs ins (.func f.key) (.value v.lab.name v.lab.ty v.lab.sub) weightNormal
  | funcTyped (f : FuncDesc) (v : SVal) : f ∈ fs → v ∈ f.input.values → v.lab.name = "" →
      WRule fs ins (.func f.key) (.arg v.lab.ty v.lab.sub) weightTyped
  | inputRoot (x : Vtx) : x ∈ ins → WRule fs ins x .root weightNormal
  | namedOut (n : String) (t : Nat) (s : String) (k : Nat) : WRule fs ins (.value n t s) (.func k) weightNormal
  | typedOut (t : Nat) (s : String) (k : Nat) : WRule fs ins (.out t s) (.func k) weightTyped
  | valueOut (n : String) (t : Nat) (s : String) : WRule fs ins (.value n t s) (.out t "") weightTyped
  | argValue (n : String) (t : Nat) (s s' : String) : WRule fs ins (.arg t s') (.value n t s) weightTyped
  | argOut (t : Nat) (s : String) : WRule fs ins (.arg t s) (.out t s) weightTyped
  | outOut (t : Nat) (s : String) (t' : Nat) (s' : String) : WRule fs ins (.out t s) (.out t' s') weightTyped
  | valueValue (n : String) (t : Nat) (s : String) (n' : String) (t' : Nat) (s' : String) :
      WRule fs ins (.value n t s) (.value n' t' s') weightTyped
  | argOutSub (t : Nat) (s s' : String) : s ≠ s' → WRule fs ins (.arg t s) (.out t s') weightTypedOtherSubtype

theorem mem_add_of_mem (g : AGraph Vtx) (v : Vtx) {x : Vtx} (h : x ∈ g.verts) : x ∈ (g.add v).verts :=
  (AGraph.mem_add_verts _ _ _).2 (Or.inl h)

theorem gen_wrule {P : Rules} (hrd : P.redefining = false) {u v : Vtx} {w : Int} (h : Gen P u v w) :
    WRule P.fs P.ins u v w := by
  cases h with
  | funcRoot f hf => exact .funcRoot f hf
  | req f val hf hval =>
    unfold Label.vertex reqWeight
    by_cases hn : val.lab.name ≠ ""
    · rw [if_pos hn, if_pos hn]; exact .funcNamed f val hf hval hn
    · rw [if_neg hn, if_neg hn]; exact .funcTyped f val hf hval (Classical.not_not.1 hn)
  | input x hx => exact .inputRoot _ hx
  | outNamed f p => exact .namedOut _ _ _ _
  | outTyped f p => exact .typedOut _ _ _
  | valueOut n t s => exact .valueOut n t s
  | argValue n t s => exact .argValue n t s ""
  | argValueSub n t s => exact .argValue n t s s
  | argOut t s => exact .argOut t s
  | ifaceOut i s t' s' => exact .outOut _ _ _ _
  | valueValue n t n' s' => exact .valueValue _ _ _ _ _ _
  | argOutSub t s s' h =>
    refine .argOutSub t s s' ?_
    rintro rfl
    rcases h with ⟨h1, h2⟩ | ⟨h1, h2⟩
    · exact h2 h1
    · exact h1 h2
  | redefine v h => rw [hrd] at h; cases h

theorem mem_inputsList_named {b : Builder} {p : String × Val} (h : p ∈ b.named) :
    Vtx.value p.1 p.2.ty "" ∈ Prune.inputsList b :=
  List.mem_append_left _ (List.mem_append_left _ (List.mem_append_left _ (List.mem_map.2 ⟨p, h, rfl⟩)))

theorem mem_inputsList_namedSub {b : Builder} {p : (String × String) × Val} (h : p ∈ b.namedSub) :
    Vtx.value p.1.1 p.2.ty p.1.2 ∈ Prune.inputsList b :=
  List.mem_append_left _ (List.mem_append_left _ (List.mem_append_right _ (List.mem_map.2 ⟨p, h, rfl⟩)))

theorem mem_inputsList_typed {b : Builder} {p : Nat × Val} (h : p ∈ b.typed) :
    Vtx.out p.1 "" ∈ Prune.inputsList b :=
  List.mem_append_left _ (List.mem_append_right _ (List.mem_map.2 ⟨p, h, rfl⟩))

theorem mem_inputsList_typedSub {b : Builder} {p : (Nat × String) × Val} (h : p ∈ b.typedSub) :
    Vtx.out p.1.1 p.1.2 ∈ Prune.inputsList b :=
  List.mem_append_right _ (List.mem_map.2 ⟨p, h, rfl⟩)

/-! ### the weighted rules hold before pruning -/

abbrev CRule (b : Builder) (funcs : Nat → Option FuncDesc) (target : FuncDesc) : Vtx → Vtx → Int → Prop :=
  WRule (C01.allFuncs b funcs target) (Prune.inputsList b)

theorem pre_rule (e : TypeEnv) (b : Builder) (funcs : Nat → Option FuncDesc) (target : FuncDesc) :
    RuleOK (CRule b funcs target) (pre e b funcs target).g := by
  intro x y w h
  rw [pre_eq_lastV] at h
  exact gen_wrule (P := rulesOf {} e b funcs target false none) rfl (lastV_weight _ _ _ _ _ _ _ h)

/-! ### the store written by `inputsGraph` -/

/-- at each vertex the last value supplied for it is stored -/
theorem supply_store (P : Val → Prop) (v : Vtx) : ∀ (l : List (Vtx × Val)) (c : CG),
    (∀ p ∈ l, p.1 = v → P p.2) → ((∃ p ∈ l, p.1 = v) ∨ ∃ x, mapGet c.store v = some x ∧ P x) →
    ∃ x, mapGet (l.foldl supply c).store v = some x ∧ P x := by
  intro l
  induction l with
  | nil =>
    rintro c _ (⟨p, hp, _⟩ | h)
    · cases hp
    · exact h
  | cons a l ih =>
    intro c hl h
    rw [List.foldl_cons]
    apply ih _ (fun p hp => hl p (List.mem_cons_of_mem _ hp))
    by_cases hl' : ∃ p ∈ l, p.1 = v
    · exact .inl hl'
    · right
      show ∃ x, mapGet (mapSet c.store a.1 a.2) v = some x ∧ P x
      rw [mapGet_mapSet]
      by_cases hav : v = a.1
      · rw [if_pos hav]
        exact ⟨_, rfl, hl a List.mem_cons_self hav.symm⟩
      · rw [if_neg hav]
        rcases h with ⟨p, hp, hpv⟩ | h
        · rcases List.mem_cons.1 hp with rfl | hp
          · exact absurd hpv.symm hav
          · exact absurd ⟨p, hp, hpv⟩ hl'
        · exact h

/-- the named maps of a builder as the options produce them -/
structure NamedOK (b : Builder) : Prop where
  named_nodup : (b.named.map (·.1)).Nodup
  namedSub_nodup : (b.namedSub.map (·.1)).Nodup
  namedSub_sub : ∀ p ∈ b.namedSub, p.1.2 ≠ ""

theorem store_named (c : CG) (b : Builder) (hb : NamedOK b) (n : String) (x : Val) (h : (n, x) ∈ b.named) :
    mapGet (inputsGraph c b).1.store (.value n x.ty "") = some x := by
  rw [ArgMapper.inputsGraph_eq]
  obtain ⟨y, hy, rfl⟩ := supply_store (· = x) (.value n x.ty "") (Prune.inputsPairs b) c
    (by
      intro p hp hv
      simp only [Prune.inputsPairs, List.mem_append, List.mem_map] at hp
      rcases hp with ((⟨q, hq, rfl⟩ | ⟨q, hq, rfl⟩) | ⟨q, _, rfl⟩) | ⟨q, _, rfl⟩
      · simp only [Vtx.value.injEq] at hv
        have : (n, q.2) ∈ b.named := by rw [← hv.1]; exact hq
        exact nodup_keys_unique hb.named_nodup this h
      · simp only [Vtx.value.injEq] at hv
        exact absurd hv.2.2 (hb.namedSub_sub q hq)
      · cases hv
      · cases hv)
    (.inl ⟨_, List.mem_append_left _ (List.mem_append_left _ (List.mem_append_left _
      (List.mem_map.2 ⟨(n, x), h, rfl⟩))), rfl⟩)
  exact hy

theorem store_namedSub (c : CG) (b : Builder) (hb : NamedOK b) (n s : String) (x : Val)
    (h : ((n, s), x) ∈ b.namedSub) :
    mapGet (inputsGraph c b).1.store (.value n x.ty s) = some x := by
  rw [ArgMapper.inputsGraph_eq]
  obtain ⟨y, hy, rfl⟩ := supply_store (· = x) (.value n x.ty s) (Prune.inputsPairs b) c
    (by
      intro p hp hv
      simp only [Prune.inputsPairs, List.mem_append, List.mem_map] at hp
      rcases hp with ((⟨q, hq, rfl⟩ | ⟨q, hq, rfl⟩) | ⟨q, _, rfl⟩) | ⟨q, _, rfl⟩
      · simp only [Vtx.value.injEq] at hv
        exact absurd hv.2.2.symm (hb.namedSub_sub _ h)
      · simp only [Vtx.value.injEq] at hv
        have : ((n, s), q.2) ∈ b.namedSub := by
          have : q = ((n, s), q.2) := by
            obtain ⟨⟨a, b'⟩, c'⟩ := q
            simp only at hv ⊢
            rw [hv.1, hv.2.2]
          rw [← this]; exact hq
        exact nodup_keys_unique hb.namedSub_nodup this h
      · cases hv
      · cases hv)
    (.inl ⟨_, List.mem_append_left _ (List.mem_append_left _ (List.mem_append_right _
      (List.mem_map.2 ⟨((n, s), x), h, rfl⟩))), rfl⟩)
  exact hy

/-! ### edges that are certainly there -/

theorem inputsGraph_root_edge (c : CG) (b : Builder) (v : Vtx) (hv : v ∈ Prune.inputsList b) :
    (inputsGraph c b).1.g.hasEdge v .root = true := by
  rw [ArgMapper.inputsGraph_eq]
  exact RedefC.supply_root_edge c b v hv


/-! ### `gatherArgs` when every argument is there -/

theorem gatherArgs_ok (e : TypeEnv) (f : FuncDesc) (am : ArgMap)
    (h : ∀ v ∈ f.input.values, ∃ a, mapGet am v.lab.vertex = some a ∧ e.assignable a.ty v.lab.ty = true) :
    gatherArgs e f am = .ok (f.input.values.map (ExecEqs.argOf am)) := by
  have hc := ExecEqs.gatherArgs_cases e f am
  generalize gatherArgs e f am = r at hc
  cases hc with
  | ok _ => rfl
  | missing hv hm => obtain ⟨a, ha, _⟩ := h _ hv; rw [ha] at hm; cases hm
  | notAssignable hv hm hna =>
    obtain ⟨a, ha, haa⟩ := h _ hv
    rw [ha] at hm; cases hm
    rw [haa] at hna; cases hna


/-! ### exact matches (copies of the definitions of `Props/C03.lean`, which imports this file) -/

def exactValue (b : Builder) (p : Label) : Option Val :=
  if p.name ≠ "" then
    (if p.sub = "" then (mapGet b.named p.name).filter (fun v => v.ty == p.ty)
     else (mapGet b.namedSub (p.name, p.sub)).filter (fun v => v.ty == p.ty))
  else if p.sub = "" then mapGet b.typed p.ty else mapGet b.typedSub (p.ty, p.sub)

theorem initSt_get (cg : CG) (memo : List (Nat × Memo)) (orc : List OrcItem) (x : Vtx) :
    (initSt cg memo orc).get x = (mapGet cg.store x).map (fun v => { ty := v.ty, id := v.id, org := x }) := by
  unfold initSt CallSt.get mapGet
  dsimp only
  induction cg.store with
  | nil => rfl
  | cons a l ih =>
    rw [List.map_cons, List.find?_cons, List.find?_cons]
    dsimp only
    by_cases h : a.1 = x
    · subst h; simp
    · have : decide (a.1 = x) = false := by simpa using h
      simp only [this]
      exact ih

theorem vertex_named {p : Label} (h : p.name ≠ "") : p.vertex = .value p.name p.ty p.sub := if_pos h

theorem vertex_typed {p : Label} (h : p.name = "") : p.vertex = .arg p.ty p.sub := if_neg (not_not_intro h)

theorem exact_named_store (c : CG) (b : Builder) (hb : NamedOK b) (p : Label) (hn : p.name ≠ "") (val : Val)
    (h : exactValue b p = some val) :
    mapGet (inputsGraph c b).1.store p.vertex = some val ∧ val.ty = p.ty ∧ p.vertex ∈ Prune.inputsList b := by
  unfold exactValue at h
  rw [if_pos hn] at h
  rw [vertex_named hn]
  split at h
  all_goals
    rename_i hs
    obtain ⟨h1, h2⟩ := Option.filter_eq_some_iff.1 h
    have hty : val.ty = p.ty := by simpa using h2
    have hmem := mem_of_mapGet h1
    rw [← hty]
  · rw [hs]
    exact ⟨store_named c b hb _ _ hmem, rfl, mem_inputsList_named hmem⟩
  · exact ⟨store_namedSub c b hb _ _ _ hmem, rfl, mem_inputsList_namedSub (p := ((p.name, p.sub), val)) hmem⟩

theorem rule_from_func {fs : List FuncDesc} {ins : List Vtx} {k : Nat} {y : Vtx} {w : Int}
    (h : WRule fs ins (.func k) y w) :
    (y = .root ∧ w = weightNormal) ∨
    (∃ f ∈ fs, f.key = k ∧ ∃ v ∈ f.input.values, y = v.lab.vertex ∧
      w = if v.lab.name ≠ "" then weightNormal else weightTyped) := by
  generalize hx : Vtx.func k = x at h
  cases h with
  | funcRoot f hf => exact Or.inl ⟨rfl, rfl⟩
  | funcNamed f v hf hv hn =>
    cases hx
    exact Or.inr ⟨f, hf, rfl, v, hv, (vertex_named hn).symm, by rw [if_pos hn]⟩
  | funcTyped f v hf hv hn =>
    cases hx
    exact Or.inr ⟨f, hf, rfl, v, hv, (vertex_typed hn).symm, by rw [if_neg (not_not_intro hn)]⟩
  | inputRoot x hxi => exact Or.inl ⟨rfl, rfl⟩
  | namedOut => cases hx
  | typedOut => cases hx
  | valueOut => cases hx
  | argValue => cases hx
  | argOut => cases hx
  | outOut => cases hx
  | valueValue => cases hx
  | argOutSub => cases hx

section
variable (e : TypeEnv) (b : Builder) (funcs : Nat → Option FuncDesc) (target : FuncDesc)

def fin : CG := prune (pre e b funcs target) (.func target.key)

theorem fin_store : (fin e b funcs target).store = (c2 b target).store := by
  unfold fin
  rw [store_prune, pre_store]

theorem fin_target_outs
    (hsame : ∀ f ∈ C01.allFuncs b funcs target, f.key = target.key → f.input = target.input)
    (y : Vtx) (hy : (fin e b funcs target).g.hasEdge (.func target.key) y = true) :
    y = .root ∨ ∃ v ∈ target.input.values, y = v.lab.vertex := by
  obtain ⟨w, hw⟩ := AGraph.hasEdge_iff_weight.1 hy
  unfold fin at hw
  rw [prune_weight _ (pre_wf e b funcs target)] at hw
  rcases rule_from_func (pre_rule e b funcs target _ _ _ hw.1) with h | ⟨f, hf, hk, v, hv, hyv, _⟩
  · exact Or.inl h.1
  · rw [hsame f hf hk] at hv
    exact Or.inr ⟨v, hv, hyv⟩

theorem c1_target_outs (y : Vtx) (hy : y ∈ (c1 target).g.outs (.func target.key)) :
    y = .root ∨ ∃ v ∈ target.input.values, y = v.lab.vertex :=
  (c1_hasEdge target (AGraph.mem_outs.1 hy)).2

theorem fin_root : Vtx.root ∈ (fin e b funcs target).g.verts := by
  unfold fin
  rw [prune_verts]
  exact ⟨pre_root e b funcs target, Or.inl rfl⟩

theorem unsat_nil_of_verts (var : Variant) (rd : Bool) (filter : Option Filter)
    (hroot : Vtx.root ∈ (callGraph var e b funcs target rd filter).cg.g.verts)
    (h : ∀ v ∈ target.input.values, v.lab.vertex ∈ (callGraph var e b funcs target rd filter).cg.g.verts) :
    (callGraph var e b funcs target rd filter).unsat = [] := by
  rw [ArgMapper.callGraph_unsat, ← ArgMapper.callGraph_cg, List.map_eq_nil_iff, List.filter_eq_nil_iff]
  intro y hy
  have hmem : y ∈ (callGraph var e b funcs target rd filter).cg.g.verts := by
    rcases c1_target_outs target y hy with rfl | ⟨v, hv, rfl⟩
    · exact hroot
    · exact h v hv
  simp [AGraph.hasVertex, hmem]

theorem unsat_nil (h : ∀ v ∈ target.input.values, v.lab.vertex ∈ (fin e b funcs target).g.verts) :
    (callGraph {} e b funcs target false none).unsat = [] := by
  have hr := fin_root e b funcs target
  unfold fin at hr h
  refine unsat_nil_of_verts e b funcs target {} false none ?_ ?_ <;> rw [callGraph_cg]
  · exact hr
  · exact h

end

theorem stdCtx_g (e : TypeEnv) (b : Builder) (funcs : Nat → Option FuncDesc) (target : FuncDesc)
    (beh : Nat → Nat → List PVal → BehOut) : (C01.stdCtx e b funcs target beh).g = (fin e b funcs target).g := by
  unfold C01.stdCtx
  dsimp only
  rw [callGraph_cg]
  rfl


/-! ### builders produced by `build` are well formed -/

/-- typed entries are keyed by the dynamic type of the value they hold -/
structure TypedOK (b : Builder) : Prop where
  typed_ty : ∀ p ∈ b.typed, p.2.ty = p.1
  typedSub_ty : ∀ p ∈ b.typedSub, p.2.ty = p.1.1

theorem mapSet_keys_nodup {κ β : Type} [DecidableEq κ] (m : List (κ × β)) (k : κ) (v : β)
    (h : (m.map (·.1)).Nodup) : ((mapSet m k v).map (·.1)).Nodup := by
  unfold mapSet
  rw [List.map_append, List.nodup_append]
  refine ⟨(List.filter_sublist.map _).nodup h, by simp, ?_⟩
  intro a ha b hb
  simp only [List.map_cons, List.map_nil, List.mem_singleton] at hb
  subst hb
  rw [List.mem_map] at ha
  obtain ⟨p, hp, rfl⟩ := ha
  have := (List.mem_filter.1 hp).2
  simpa using this

def BOK (b : Builder) : Prop := NamedOK b ∧ TypedOK b

theorem BOK_congr {b b' : Builder} (h : BOK b) (h1 : b'.named = b.named) (h2 : b'.namedSub = b.namedSub)
    (h3 : b'.typed = b.typed) (h4 : b'.typedSub = b.typedSub) : BOK b' :=
  ⟨⟨by rw [h1]; exact h.1.named_nodup, by rw [h2]; exact h.1.namedSub_nodup, by rw [h2]; exact h.1.namedSub_sub⟩,
   ⟨by rw [h3]; exact h.2.typed_ty, by rw [h4]; exact h.2.typedSub_ty⟩⟩

theorem BOK_empty : BOK Builder.empty :=
  ⟨⟨by simp [Builder.empty], by simp [Builder.empty], by simp [Builder.empty]⟩,
   ⟨by simp [Builder.empty], by simp [Builder.empty]⟩⟩

theorem BOK_setTyped (b : Builder) (v : Option Val) (h : BOK b) : BOK (setTyped b v) := by
  unfold setTyped
  split
  · exact h
  · rename_i x
    refine ⟨⟨h.1.named_nodup, h.1.namedSub_nodup, h.1.namedSub_sub⟩, ⟨?_, h.2.typedSub_ty⟩⟩
    intro p hp
    rcases mem_mapSet hp with hp | rfl
    · exact h.2.typed_ty p hp
    · rfl

theorem BOK_setTypedSub (b : Builder) (v : Option Val) (st : String) (h : BOK b) : BOK (setTypedSub b v st) := by
  unfold setTypedSub
  split
  · exact BOK_setTyped b v h
  · split
    · exact h
    · rename_i x
      refine ⟨⟨h.1.named_nodup, h.1.namedSub_nodup, h.1.namedSub_sub⟩, ⟨h.2.typed_ty, ?_⟩⟩
      intro p hp
      rcases mem_mapSet hp with hp | rfl
      · exact h.2.typedSub_ty p hp
      · rfl

theorem BOK_setNamed (b : Builder) (n : String) (v : Option Val) (h : BOK b) : BOK (setNamed b n v) := by
  unfold setNamed
  split
  · exact BOK_setTyped b v h
  · split
    · exact h
    · rename_i x
      exact ⟨⟨mapSet_keys_nodup _ _ _ h.1.named_nodup, h.1.namedSub_nodup, h.1.namedSub_sub⟩,
        ⟨h.2.typed_ty, h.2.typedSub_ty⟩⟩

theorem BOK_setNamedSub (b : Builder) (n : String) (v : Option Val) (st : String) (h : BOK b) :
    BOK (setNamedSub b n v st) := by
  unfold setNamedSub
  split
  · exact BOK_setTypedSub b v st h
  · split
    · exact BOK_setNamed b n v h
    · rename_i hst
      split
      · exact h
      · rename_i x
        refine ⟨⟨h.1.named_nodup, mapSet_keys_nodup _ _ _ h.1.namedSub_nodup, ?_⟩,
          ⟨h.2.typed_ty, h.2.typedSub_ty⟩⟩
        intro p hp
        rcases mem_mapSet hp with hp | rfl
        · exact h.1.namedSub_sub p hp
        · exact hst

theorem BOK_addConvs (fs : List (Option Nat)) : ∀ (b : Builder), BOK b → BOK (addConvs b fs) := by
  induction fs with
  | nil => intro b h; exact h
  | cons f fs ih =>
    intro b h
    cases f with
    | none => exact BOK_congr h rfl rfl rfl rfl
    | some f => exact ih _ (BOK_congr h rfl rfl rfl rfl)

theorem BOK_applyOpt (b : Builder) (o : Opt) (h : BOK b) : BOK (applyOpt b o) := by
  cases o with
  | named n v => exact BOK_setNamed b n v h
  | namedSub n v st => exact BOK_setNamedSub b n v st h
  | typed vs =>
    show BOK (vs.foldl setTyped b)
    exact foldl_inv BOK setTyped (fun b v hb => BOK_setTyped b v hb) vs b h
  | typedSub v st => exact BOK_setTypedSub b v st h
  | convFunc fs => exact BOK_congr h rfl rfl rfl rfl
  | conv fs => exact BOK_addConvs fs b h
  | gen k => exact BOK_congr h rfl rfl rfl rfl
  | filterIn k => exact BOK_congr h rfl rfl rfl rfl
  | filterOut k => exact BOK_congr h rfl rfl rfl rfl
  | funcOnce => exact BOK_congr h rfl rfl rfl rfl
  | other => exact h
  | nilOpt => exact h

theorem BOK_buildFrom : ∀ (opts : List Opt) (b b' : Builder), BOK b →
    (buildFrom b opts = .ok b' ∨ buildFrom b opts = .optErr b') → BOK b' := by
  intro opts
  induction opts with
  | nil =>
    intro b b' h hb
    unfold buildFrom at hb
    split at hb
    · rcases hb with hb | hb
      · cases hb; exact h
      · cases hb
    · rcases hb with hb | hb
      · cases hb
      · cases hb; exact h
  | cons o opts ih =>
    intro b b' h hb
    cases o <;> first
      | (unfold buildFrom at hb; rcases hb with hb | hb <;> cases hb)
      | (unfold buildFrom at hb; exact ih _ _ (BOK_applyOpt b _ h) hb)

/-- every builder `newArgBuilder` returns (with or without an option error) is well formed -/
theorem build_BOK (opts : List Opt) (b : Builder) (h : build opts = .ok b ∨ build opts = .optErr b) : BOK b :=
  BOK_buildFrom opts _ _ BOK_empty h

end ArgMapper.ExactWins
