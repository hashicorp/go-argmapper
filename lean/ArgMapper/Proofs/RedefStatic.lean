import ArgMapper.Proofs.CompleteStatic
import ArgMapper.Proofs.RedefineInputs
import ArgMapper.Proofs.RedefComplete
/-!
# The Redefine graph of a subtype-free scenario satisfies `RedefC.FactsR` (helper lemmas for C08b, static part)

* rule R8 (`phaseR8`) only adds edges `value / arg → root` between present vertices (`ext_preR`);
* `VP`: a property of every value vertex — here "no subtype, and the name and type of a label of the
  scenario" (`pre_valueVerts`);
* the Redefine graph is `prune (phaseR8 (ExactWins.pre …))`: its edges are edges of the `Call` graph before
  pruning or R8 edges (`finR_edge`);
* the planning context is a `Complete.CtxStd` (`rctx_std`), from whose lemmas `factsR` is assembled;
* every permitted parameter survives pruning (`unsat_nil`);
* the declared inputs have pairwise distinct field names (`fieldsOK_declared`);
* `redefine_succeeds`: the planning run ends in success, or the oracle does not fit.
-/
set_option linter.unusedSectionVars false
namespace ArgMapper.RedefC
open ArgMapper Generated

/-! ### rule R8 -/

def R8R : Vtx → Vtx → Prop := fun u v => v = .root ∧ (u.isValue = true ∨ u.isArg = true)

/-! ### a property of every value vertex -/

def VP (P : Vtx → Prop) (c : CG) : Prop := ∀ v ∈ c.g.verts, v.isValue = true → P v

/-- every value vertex of the graph before pruning is the vertex of a supplied named value, of a named
parameter or of a named result of a converter -/
theorem vp_pre {P : Vtx → Prop} (e : TypeEnv) (b : Builder) (funcs : Nat → Option FuncDesc) (target : FuncDesc)
    (hin : ∀ u ∈ Prune.inputsList b, u.isValue = true → P u)
    (hpar : ∀ f ∈ C01.allFuncs b funcs target, ∀ val ∈ f.input.values, val.lab.name ≠ "" →
      P (.value val.lab.name val.lab.ty val.lab.sub))
    (hres : ∀ f ∈ b.convs.filterMap funcs, ∀ p ∈ f.output.named, P (.value p.1 p.2.lab.ty p.2.lab.sub)) :
    VP P (ExactWins.pre e b funcs target) := by
  intro v hv hk
  rw [ExactWins.pre_eq_lastV] at hv
  cases lastV_verts _ _ _ _ _ _ _ hv with
  | other _ h => rw [hk] at h; cases h
  | req f val hf hval =>
    unfold Label.vertex at hk ⊢
    split
    · next hn => exact hpar f hf val hval hn
    · next hn => rw [if_neg hn] at hk; cases hk
  | outNamed f p hf hp => exact hres f hf p hp
  | input x hx => exact hin _ hx hk

/-! ### the Redefine graph -/

section
variable (e : TypeEnv) (fin : Option Filter) (b : Builder) (funcs : Nat → Option FuncDesc) (target : FuncDesc)

def preR : CG := phaseR8 e fin true (ExactWins.pre e b funcs target)

def finR : CG := prune (preR e fin b funcs target) (.func target.key)

theorem preR_eq_lastV : preR e fin b funcs target = lastV {} e b funcs target true fin := by
  rw [lastV_true, preV_std]
  rfl

theorem callGraph_cg : (callGraph {} e b funcs target true fin).cg = finR e fin b funcs target := by
  rw [ArgMapper.callGraph_cg, ← preR_eq_lastV]
  rfl

theorem callGraph_target : (callGraph {} e b funcs target true fin).target = .func target.key := rfl

theorem ext_preR : Prune.Ext R8R (ExactWins.pre e b funcs target) (preR e fin b funcs target) :=
  (grow_phaseR8 (V := fun _ => True) (S := fun _ _ => True) (R := fun u v _ => R8R u v) e fin true _
    (ExactWins.pre_root e b funcs target) (fun _ hk _ => ⟨rfl, hk⟩)).toExt.mono (fun _ _ ⟨_, h⟩ => h)

theorem preR_wf : (preR e fin b funcs target).g.WF := (ext_preR e fin b funcs target).wf (ExactWins.pre_wf e b funcs target)

theorem preR_root : Vtx.root ∈ (preR e fin b funcs target).g.verts :=
  (ext_preR e fin b funcs target).verts (ExactWins.pre_root e b funcs target)

theorem finR_wf : (finR e fin b funcs target).g.WF := ExactWins.prune_wf _ (preR_wf e fin b funcs target) _

theorem finR_edge {x y : Vtx} (h : (finR e fin b funcs target).g.hasEdge x y = true) :
    (ExactWins.pre e b funcs target).g.hasEdge x y = true ∨ R8R x y :=
  (ext_preR e fin b funcs target).edge_inv (ExactWins.hasEdge_prune _ _ _ _ h)

theorem finR_verts {x : Vtx} (h : x ∈ (finR e fin b funcs target).g.verts) :
    x ∈ (ExactWins.pre e b funcs target).g.verts := by
  unfold finR preR at h
  rw [ExactWins.prune_verts, phaseR8_verts] at h
  exact h.1

theorem finR_store : (finR e fin b funcs target).store = (ExactWins.c2 b target).store := by
  unfold finR
  rw [ExactWins.store_prune, preR_eq_lastV]
  exact lastV_store_eq _ _ _ _ _ _ _

end


/-! ### the labels of a scenario and its value vertices -/

def nameLabels (b : Builder) (fs : List FuncDesc) : List Label :=
  b.named.map (fun p => { name := p.1, ty := p.2.ty, sub := "" }) ++
    fs.flatMap (fun f => f.input.labels ++ f.output.labels)

def PV (b : Builder) (fs : List FuncDesc) (v : Vtx) : Prop :=
  v.sub = "" ∧ ∃ l ∈ nameLabels b fs, l.name = v.name ∧ l.ty = v.ty

open Complete in
theorem pre_valueVerts {e : TypeEnv} {b : Builder} {funcs : Nat → Option FuncDesc} {target : FuncDesc}
    (H : Hyps e b funcs target) :
    VP (PV b (C01.allFuncs b funcs target)) (ExactWins.pre e b funcs target) := by
  apply vp_pre
  · intro u hu hv
    simp only [Prune.inputsList, H.nsub, H.tsub, List.map_nil, List.append_nil, List.mem_append, List.mem_map] at hu
    rcases hu with ⟨p, hp, rfl⟩ | ⟨p, hp, rfl⟩
    · refine ⟨rfl, { name := p.1, ty := p.2.ty, sub := "" }, ?_, rfl, rfl⟩
      unfold nameLabels
      exact List.mem_append_left _ (List.mem_map.2 ⟨p, hp, rfl⟩)
    · cases hv
  · intro f hf val hval _
    have hl : val.lab ∈ f.input.labels := List.mem_map.2 ⟨val, hval, rfl⟩
    refine ⟨(H.labs f hf).1 _ hl, val.lab, ?_, rfl, rfl⟩
    unfold nameLabels
    exact List.mem_append_right _ (List.mem_flatMap.2 ⟨f, hf, List.mem_append_left _ hl⟩)
  · intro f hf p hp
    have hfa : f ∈ C01.allFuncs b funcs target := List.mem_cons_of_mem _ hf
    obtain ⟨hmem, hkey, _⟩ := (H.cons.2 f hfa).2.1 p hp
    have hl : p.2.lab ∈ f.output.labels := List.mem_map.2 ⟨p.2, hmem, rfl⟩
    refine ⟨(H.labs f hfa).2 _ hl, p.2.lab, ?_, hkey.symm, rfl⟩
    unfold nameLabels
    exact List.mem_append_right _ (List.mem_flatMap.2 ⟨f, hfa, List.mem_append_right _ hl⟩)

/-! ### the context of the planning run and its facts -/

/-- the context the planning run of `Redefine` executes in -/
def rctx (e : TypeEnv) (b : Builder) (funcs : Nat → Option FuncDesc) (target : FuncDesc)
    (fin : Option Filter) (outCount : Nat → Nat) : Ctx :=
  { env := e, g := (callGraph {} e b funcs target true fin).cg.g,
    funcOf := fun k => (C01.allFuncs b funcs target).find? (fun f => f.key == k), beh := zeroBeh outCount }

theorem rctx_g (e : TypeEnv) (b : Builder) (funcs : Nat → Option FuncDesc) (target : FuncDesc)
    (fin : Option Filter) (outCount : Nat → Nat) :
    (rctx e b funcs target fin outCount).g = (finR e fin b funcs target).g := by
  unfold rctx
  dsimp only
  rw [callGraph_cg]

section
open Complete
variable {e : TypeEnv} {b : Builder} {funcs : Nat → Option FuncDesc} {target : FuncDesc}

theorem rctx_std (fin : Option Filter) (outCount : Nat → Nat) :
    CtxStd e b funcs target true fin (rctx e b funcs target fin outCount) :=
  ⟨rfl, by dsimp only [rctx], fun _ => rfl⟩

theorem factsR (H : Hyps e b funcs target) (ht : ImplTrans e) (fin : Option Filter) (outCount : Nat → Nat) :
    FactsR (rctx e b funcs target fin outCount) True target.key (fun x => x ∈ Prune.inputsList b) := by
  have C := rctx_std (e := e) (b := b) (funcs := funcs) (target := target) fin outCount
  have S := H.toStd
  exact
    { hN := fun _ _ _ _ => rfl, pub := rfl, tvn := rfl, mc := rfl, tr := rfl, sri := rfl, auto := rfl,
      trans := ht, edgeOK := C.edgeOK,
      valSub := C.valSub S H.nsub H.labs,
      toRoot := C.toRootR, funcReq := C.funcReq S, funcKey := C.funcKey, funcRoot := C.funcRoot S,
      single := C.single H.single, noTarget := C.noTarget H.key, outTyped := C.outTyped S }

end


/-! ### every permitted parameter survives pruning -/

section
open ExactWins
variable (e : TypeEnv) (fin : Option Filter) (b : Builder) (funcs : Nat → Option FuncDesc) (target : FuncDesc)

theorem param_keptR (hperm : ∀ l ∈ target.input.labels, RedefineInputs.passesF e fin l.ty = true)
    (v : SVal) (hv : v ∈ target.input.values) :
    v.lab.vertex ∈ (finR e fin b funcs target).g.verts := by
  have hwf := preR_wf e fin b funcs target
  have hr := preR_root e fin b funcs target
  have hext := ext_preR e fin b funcs target
  have h1 : (pre e b funcs target).g.hasEdge (.func target.key) v.lab.vertex = true :=
    (built_pre_c1 e b funcs target).hasEdge (RedefC.funcGraph_req_edge c0 target false v hv)
  have hmem : v.lab.vertex ∈ (pre e b funcs target).g.verts :=
    (AGraph.hasEdge_verts (pre_wf e b funcs target) h1).2
  have hp : RedefineInputs.passesF e fin v.lab.vertex.ty = true := by
    rw [Complete.vertex_ty]
    exact hperm _ (List.mem_map.2 ⟨v, hv, rfl⟩)
  have hk : (v.lab.vertex.isValue || v.lab.vertex.isArg) = true := by
    rcases Complete.vertex_kind v.lab with h | h <;> simp [h]
  unfold finR
  rw [prune_verts]
  refine ⟨hext.verts hmem, ?_⟩
  cases hsk : (v.lab.vertex.isArg &&
      ((pre e b funcs target).valueOf (.out v.lab.vertex.ty v.lab.vertex.sub)).isSome) with
  | false =>
    exact kept_of_root_edge _ hwf hr _ _ (phaseR8_new e fin true _ _ hmem hk hsk hp)
  | true =>
    simp only [Bool.and_eq_true] at hsk
    obtain ⟨harg, hsome⟩ := hsk
    obtain ⟨val, hval⟩ := Option.isSome_iff_exists.1 hsome
    unfold CG.valueOf at hval
    rw [pre_store] at hval
    have hin := Complete.store_key_input e funcs hval
    have h2 : (pre e b funcs target).g.hasEdge (.out v.lab.vertex.ty v.lab.vertex.sub) .root = true :=
      (built_pre_c2 e b funcs target).hasEdge (inputsGraph_root_edge _ _ _ hin)
    cases hvx : v.lab.vertex with
    | arg t st =>
      rw [hvx] at hmem h2 h1
      dsimp only [Vtx.ty, Vtx.sub] at h2
      have hc1e : (c1 target).g.hasEdge (.func target.key) (.arg t st) = true := by
        rw [← hvx]; exact RedefC.funcGraph_req_edge c0 target false v hv
      have h3 : (pre e b funcs target).g.hasEdge (.arg t st) (.out t st) = true :=
        pre_arg_out e b funcs target _ _ hmem
      have k1 : Kept (preR e fin b funcs target) (.func target.key) (.out t st) :=
        kept_of_root_edge _ hwf hr _ _ (hext.edge_mono h2)
      exact kept_step _ hwf hr _ _ _ k1 (fun h => by cases h) (hext.edge_mono h3)
    | root => rw [hvx] at harg; cases harg
    | value n t st => rw [hvx] at harg; cases harg
    | out t st => rw [hvx] at harg; cases harg
    | func k => rw [hvx] at harg; cases harg

theorem unsat_nil (hperm : ∀ l ∈ target.input.labels, RedefineInputs.passesF e fin l.ty = true) :
    (callGraph {} e b funcs target true fin).unsat = [] := by
  refine ExactWins.unsat_nil_of_verts e b funcs target {} true fin ?_ ?_ <;> rw [callGraph_cg]
  · unfold finR
    rw [prune_verts]
    exact ⟨preR_root e fin b funcs target, Or.inl rfl⟩
  · exact param_keptR e fin b funcs target hperm

end


/-! ### the declared inputs have distinct field names -/

theorem nodup_filterMap_of_injOn {α β : Type} (g : α → Option β) (L : List α) (hL : L.Nodup)
    (hinj : ∀ a ∈ L, ∀ b ∈ L, ∀ x, g a = some x → g b = some x → a = b) : (L.filterMap g).Nodup := by
  rw [List.Nodup, List.pairwise_filterMap]
  exact (List.Pairwise.and_mem.1 hL).imp fun ⟨ha, hb, hne⟩ x hx y hy hxy =>
    hne (hinj _ ha _ hb x hx (hxy ▸ hy))

/-- the struct field name a used input vertex contributes -/
def fieldOf : Vtx → Option String
  | .value n _ _ => if n != "" then some (upper n) else none
  | _ => none

theorem fieldOf_some {v : Vtx} {x : String} (h : fieldOf v = some x) :
    ∃ n t s, v = .value n t s ∧ n ≠ "" ∧ x = upper n := by
  cases v with
  | value n t s =>
    dsimp only [fieldOf] at h
    split at h
    · next hn => exact ⟨n, t, s, rfl, by simpa using hn, (Option.some.inj h).symm⟩
    · cases h
  | _ => cases h

theorem declared_fields (I prov : List Vtx) :
    (((declaredInputs I prov).filter (fun l => l.name != "")).map (fun l => upper l.name)) =
      (I.filter (fun v => !decide (v ∈ prov))).filterMap fieldOf := by
  unfold declaredInputs
  rw [List.filter_filterMap, List.map_filterMap]
  congr 1
  funext v
  cases v <;> simp [fieldOf, Option.filter]
  -- a value vertex: both sides are `some (upper n)` unless `n = ""`
  split <;> rfl

def NamesSingle (ls : List Label) : Prop :=
  ∀ l₁ ∈ ls, ∀ l₂ ∈ ls, l₁.name ≠ "" → upper l₁.name = upper l₂.name → l₁.name = l₂.name ∧ l₁.ty = l₂.ty

theorem fieldsOK_declared (b : Builder) (fs : List FuncDesc) (I prov : List Vtx) (hnd : I.Nodup)
    (hI : ∀ v ∈ I, v.isValue = true → PV b fs v) (hnames : NamesSingle (nameLabels b fs)) :
    fieldsOK (declaredInputs I prov) = true := by
  unfold fieldsOK
  rw [declared_fields]
  simp only [decide_eq_true_eq]
  apply nodup_filterMap_of_injOn
  · exact hnd.filter _
  · intro a ha b' hb' x h1 h2
    obtain ⟨n, t, s, rfl, hn, rfl⟩ := fieldOf_some h1
    obtain ⟨n', t', s', rfl, _, hx⟩ := fieldOf_some h2
    obtain ⟨hs, l, hl, hln, hlt⟩ := hI _ (List.mem_filter.1 ha).1 rfl
    obtain ⟨hs', l', hl', hln', hlt'⟩ := hI _ (List.mem_filter.1 hb').1 rfl
    dsimp only [Vtx.sub, Vtx.name, Vtx.ty] at hs hs' hln hlt hln' hlt'
    have := hnames l hl l' hl' (by rw [hln]; exact hn) (by rw [hln, hln', hx])
    rw [hln, hln', hlt, hlt'] at this
    rw [this.1, this.2, hs, hs']


/-! ### the planning run succeeds -/

section
open Complete
variable {e : TypeEnv} {b : Builder} {funcs : Nat → Option FuncDesc} {target : FuncDesc}

/-- the core of C08b: the planning run of `Redefine` ends in success or the oracle did not fit -/
theorem redefine_succeeds (H : Hyps e b funcs target) (ht : ImplTrans e)
    (hnames : NamesSingle (nameLabels b (C01.allFuncs b funcs target)))
    (fin fout : Option Filter)
    (hperm : ∀ l ∈ target.input.labels, RedefineInputs.passesF e fin l.ty = true)
    (hout : outputsPass e target fout = true)
    (outCount : Nat → Nat) (fuel : Nat) (hfuel : 2 ≤ fuel) (orc : List OrcItem) :
    (∃ ls, redefine (rctx e b funcs target fin outCount) (callGraph {} e b funcs target true fin) target fout fuel
        (initSt (callGraph {} e b funcs target true fin).cg [] orc) = .ok ls) ∨
    (∃ w, redefine (rctx e b funcs target fin outCount) (callGraph {} e b funcs target true fin) target fout fuel
        (initSt (callGraph {} e b funcs target true fin).cg [] orc) = .badOracle w) := by
  obtain ⟨m, rfl⟩ : ∃ m, fuel = m + 1 + 1 := ⟨fuel - 2, by omega⟩
  have gf := factsR H ht fin outCount
  have hE := reach_top' (E := Allowed True) gf (fun ε hn => Or.inr ⟨⟨ε, rfl⟩, hn⟩)
    (fun w => Or.inl ⟨w, rfl⟩) (m + 1) (.reach gf.sri (fun w => Or.inl ⟨w, rfl⟩) true m _) _
    ((rctx_std fin outCount).initSt_sinv H.toStd.typed True [] (fun _ p hp => nomatch hp) orc)
  have hadj := RedefineInputs.reach_inputSet (rctx e b funcs target fin outCount) gf.sri true (m + 1 + 1) []
    (.func target.key) (initSt (callGraph {} e b funcs target true fin).cg [] orc)
    (by intro v hv; simp [initSt] at hv)
  have hnd := RedefineInputs.reach_nodup (rctx e b funcs target fin outCount) gf.sri true (m + 1 + 1) []
    (.func target.key) (initSt (callGraph {} e b funcs target true fin).cg [] orc) (by simp [initSt])
  unfold redefine
  rw [show (rctx e b funcs target fin outCount).env = e from rfl, hout, unsat_nil e fin b funcs target hperm,
    callGraph_target]
  simp only [Bool.not_true, List.isEmpty_nil, Bool.false_eq_true, if_false]
  rcases hres : reach (rctx e b funcs target fin outCount) true (m + 1 + 1) [] (.func target.key)
      (initSt (callGraph {} e b funcs target true fin).cg [] orc) with ⟨err | am, s⟩
  · rw [hres] at hE
    rcases hE err rfl with ⟨w, rfl⟩ | ⟨_, hn⟩
    · exact Or.inr ⟨w, rfl⟩
    · exact absurd trivial hn
  · rw [hres] at hnd hadj
    dsimp only at hnd hadj ⊢
    have hf : fieldsOK (declaredInputs s.inputSet (callGraph {} e b funcs target true fin).inputs) = true := by
      apply fieldsOK_declared b (C01.allFuncs b funcs target) _ _ hnd _ hnames
      intro v hv hval
      have he := hadj v hv
      rw [rctx_g] at he
      have hmem := (AGraph.hasEdge_verts (finR_wf e fin b funcs target) he).1
      exact pre_valueVerts H _ (finR_verts e fin b funcs target hmem) hval
    rw [hf]
    exact Or.inl ⟨_, rfl⟩

end

end ArgMapper.RedefC
