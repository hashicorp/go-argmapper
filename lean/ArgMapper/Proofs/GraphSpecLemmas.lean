import ArgMapper.Spec.GraphSpec
import ArgMapper.Proofs.GraphAssoc
import ArgMapper.Proofs.GraphBasics
import ArgMapper.Proofs.Lists
/-!
# Specification-side lemmas for C19: `WF` preservation and monotonicity of poisoning over
`specStep`
-/
set_option linter.unusedSectionVars false
namespace ArgMapper
namespace C19
open GraphSpec
variable {α : Type} [DecidableEq α]

/-- the history respects `AddEdge*`'s documented precondition (both endpoints present) -/
def Respects (ops : List (GOp α)) : Prop :=
  ∀ c ∈ (specRun ops).classes, c.poisoned = false

def HandlesOk : SpecWorld α → List (GOp α) → Prop
  | _, [] => True
  | s, op :: rest =>
    (match op with
      | .new => True
      | .add h _ _ | .addow h _ _ | .edge h _ _ _ | .redge h _ _ | .remove h _ | .copy h | .reverse h =>
        h < s.handles.length) ∧ HandlesOk (specStep s op) rest

end C19

namespace GraphSpec
variable {α : Type} [DecidableEq α]
variable {s : SpecWorld α}
open AGraph C19

/-! ### list helpers -/

theorem getD_set {β : Type} (l : List β) (i j : Nat) (x d : β) :
    (l.set i x).getD j d = if i = j ∧ i < l.length then x else l.getD j d := by
  simp only [List.getD_eq_getElem?_getD, List.getElem?_set]
  by_cases h : i = j
  · subst h
    by_cases h2 : i < l.length
    · simp [h2]
    · simp [h2]
  · simp [h]

theorem set_getD_self {β : Type} (l : List β) (i : Nat) (d : β) : l.set i (l.getD i d) = l := by
  by_cases h : i < l.length
  · rw [List.getD_eq_getElem?_getD, List.getElem?_eq_getElem h, Option.getD_some, List.set_getElem_self]
  · exact List.set_eq_of_length_le (by omega)

theorem getD_append_lt {β : Type} (l m : List β) (d : β) (k : Nat) (h : k < l.length) :
    (l ++ m).getD k d = l.getD k d := by
  simp [List.getD_eq_getElem?_getD, List.getElem?_append, h]

theorem getD_append_len {β : Type} (l m : List β) (x d : β) : (l ++ x :: m).getD l.length d = x := by
  simp [List.getD_eq_getElem?_getD]

theorem getD_append_len_succ {β : Type} (l m : List β) (x y d : β) :
    (l ++ x :: y :: m).getD (l.length + 1) d = y := by
  simp [List.getD_eq_getElem?_getD]


def AllWF (s : SpecWorld α) : Prop := ∀ c ∈ s.classes, c.g.WF

theorem cls_wf (hs : AllWF s) (h : Nat) : (s.cls h).g.WF := by
  unfold SpecWorld.cls
  rw [List.getD_eq_getElem?_getD]
  cases hh : s.classes[(s.handle h).1]? with
  | none => exact WF_empty
  | some c => exact hs c (List.mem_of_getElem? hh)

theorem setCls_wf (hs : AllWF s) (h : Nat) (c' : SClass α) (hc : c'.g.WF) :
    AllWF (s.setCls h c') := by
  intro c hmem
  simp only [SpecWorld.setCls] at hmem
  rcases List.mem_or_eq_of_mem_set hmem with h1 | h1
  · exact hs c h1
  · subst h1; exact hc

/-! ### the mutators, class by class -/

def GOp.mutates : GOp α → Option Nat
  | .add h _ _ | .addow h _ _ | .edge h _ _ _ | .redge h _ _ | .remove h _ => some h
  | _ => none

/-- what a mutator makes of the class it acts on, through a handle of orientation `fl` -/
def mutCls (c : SClass α) (fl : Bool) : GOp α → SClass α
  | .add _ v tag => if v ∈ c.g.verts then c else { c with g := c.g.add v, tags := setTag c.tags v tag }
  | .addow _ v tag => { c with g := c.g.add v, tags := setTag c.tags v tag }
  | .edge _ u v w =>
    if u ∈ c.g.verts ∧ v ∈ c.g.verts then
      if fl then { c with g := c.g.addEdge v u w } else { c with g := c.g.addEdge u v w }
    else { c with poisoned := true }
  | .redge _ u v => if fl then { c with g := c.g.removeEdge v u } else { c with g := c.g.removeEdge u v }
  | .remove _ v => { c with g := c.g.remove v, tags := c.tags.filter (fun p => !decide (p.1 = v)) }
  | _ => c

theorem setCls_self (s : SpecWorld α) (h : Nat) : s.setCls h (s.cls h) = s := by
  unfold SpecWorld.setCls SpecWorld.cls
  rw [set_getD_self]

theorem specStep_mut (s : SpecWorld α) {op : GOp α} {h : Nat} (hop : op.mutates = some h) :
    specStep s op = s.setCls h (mutCls (s.cls h) (s.handle h).2 op) := by
  cases op <;> cases hop
  case add v tag =>
    simp only [specStep, mutCls]
    split
    · exact (setCls_self s h).symm
    · rfl
  case edge u v w =>
    simp only [specStep, mutCls]
    split
    · split <;> rfl
    · rfl
  case redge u v =>
    simp only [specStep, mutCls]
    split <;> rfl
  all_goals rfl

theorem mutCls_wf {c : SClass α} (hc : c.g.WF) (fl : Bool) (op : GOp α) : (mutCls c fl op).g.WF := by
  cases op with
  | add h v tag =>
    simp only [mutCls]
    split
    · exact hc
    · exact WF_add _ _ hc
  | addow h v tag => exact WF_add _ _ hc
  | edge h u v w =>
    simp only [mutCls]
    split
    · rename_i hp
      split
      · exact WF_addEdge _ _ _ _ hc hp.2 hp.1
      · exact WF_addEdge _ _ _ _ hc hp.1 hp.2
    · exact hc
  | redge h u v => simp only [mutCls]; split <;> exact WF_removeEdge _ _ _ hc
  | remove h v => exact WF_remove _ _ hc
  | _ => exact hc

theorem mutCls_poisoned (c : SClass α) (fl : Bool) (op : GOp α) :
    (mutCls c fl op).poisoned = true ∨ (mutCls c fl op).poisoned = c.poisoned := by
  cases op with
  | add h v tag => simp only [mutCls]; split <;> exact Or.inr rfl
  | edge h u v w =>
    simp only [mutCls]
    split
    · split <;> exact Or.inr rfl
    · exact Or.inl rfl
  | redge h u v => simp only [mutCls]; split <;> exact Or.inr rfl
  | _ => exact Or.inr rfl

theorem step_wf (hs : AllWF s) (op : GOp α) : AllWF (specStep s op) := by
  cases hm : op.mutates with
  | some h => rw [specStep_mut s hm]; exact setCls_wf hs h _ (mutCls_wf (cls_wf hs h) _ _)
  | none =>
    cases op with
    | new =>
      intro c hc
      rcases List.mem_append.1 hc with hc | hc
      · exact hs c hc
      · rw [List.mem_singleton.1 hc]; exact WF_empty
    | copy h =>
      intro c hc
      rcases List.mem_append.1 hc with hc | hc
      · exact hs c hc
      · rw [List.mem_singleton.1 hc]; exact cls_wf hs h
    | reverse h => exact hs
    | _ => cases hm

/-! ### poisoning is monotone -/

def Pois (s : SpecWorld α) : Prop := ∃ c ∈ s.classes, c.poisoned = true

theorem setCls_pois (hp : Pois s) (h : Nat) (c' : SClass α)
    (hc : c'.poisoned = true ∨ c'.poisoned = (s.cls h).poisoned) : Pois (s.setCls h c') := by
  obtain ⟨c, hmem, hcp⟩ := hp
  obtain ⟨j, hj, hcj⟩ := List.mem_iff_getElem.1 hmem
  by_cases hji : (s.handle h).1 = j
  · refine ⟨c', ?_, ?_⟩
    · simp only [SpecWorld.setCls]
      rw [hji]
      exact List.mem_set hj _
    · rcases hc with hc | hc
      · exact hc
      · rw [hc]
        unfold SpecWorld.cls
        rw [hji, List.getD_eq_getElem?_getD, List.getElem?_eq_getElem hj]
        simp [hcj, hcp]
  · refine ⟨c, ?_, hcp⟩
    simp only [SpecWorld.setCls]
    rw [List.mem_iff_getElem]
    refine ⟨j, by simpa using hj, ?_⟩
    rw [List.getElem_set_ne hji]
    exact hcj

theorem step_pois (hp : Pois s) (op : GOp α) : Pois (specStep s op) := by
  cases hm : op.mutates with
  | some h => rw [specStep_mut s hm]; exact setCls_pois hp h _ (mutCls_poisoned _ _ _)
  | none =>
    obtain ⟨c, hmem, hcp⟩ := hp
    cases op with
    | new => exact ⟨c, List.mem_append_left _ hmem, hcp⟩
    | copy h => exact ⟨c, List.mem_append_left _ hmem, hcp⟩
    | reverse h => exact ⟨c, hmem, hcp⟩
    | _ => cases hm

def NoPois (s : SpecWorld α) : Prop := ∀ c ∈ s.classes, c.poisoned = false

theorem noPois_of_foldl (ops : List (GOp α)) (h : NoPois (ops.foldl specStep s)) :
    NoPois s := by
  intro c hc
  cases hcp : c.poisoned with
  | false => rfl
  | true =>
    obtain ⟨c', hc', hp'⟩ := foldl_inv Pois specStep (fun _ op h => step_pois h op) ops s ⟨c, hc, hcp⟩
    rw [h c' hc'] at hp'
    exact absurd hp' (by simp)

theorem edge_present {h : Nat} {u v : α} {w : Int}
    (hc : (s.handle h).1 < s.classes.length) (hn : NoPois (specStep s (.edge h u v w))) :
    u ∈ (s.cls h).g.verts ∧ v ∈ (s.cls h).g.verts := by
  by_cases hp : u ∈ (s.cls h).g.verts ∧ v ∈ (s.cls h).g.verts
  · exact hp
  · exfalso
    simp only [specStep, hp, if_false] at hn
    have := hn _ (by simp only [SpecWorld.setCls]; exact List.mem_set hc _)
    simp at this

/-! ### payload table -/

theorem aget_setTag (m : List (α × Nat)) (v : α) (t : Nat) (x : α) :
    GraphImpl.aget (setTag m v t) x = if x = v then some t else GraphImpl.aget m x :=
  mapGet_mapSet m v x t

end GraphSpec
end ArgMapper
