import ArgMapper.Model.CallGraph
/-!
# `callGraph` as an equation

The stages of `callGraph` under names (`c0` … `c3`, `preV`, `lastV`) and the record it returns in
terms of them, and the loops of the single phases under names: the requirement step of `funcGraph`
(`reqStep`), the one loop `inputsGraph` amounts to (`supply` over `inputsPairs`), the double loop of
R5, R6 and both halves of R7 (`nested`).  Everything that reasons about the construction starts
from these equations and never unfolds `callGraph` or a phase.
-/
namespace ArgMapper
open Generated

/-! ### `funcGraph` -/

def reqWeight (l : Label) : Int := if l.name ≠ "" then weightNormal else weightTyped

def reqStep (k : Nat) (c : CG) (val : SVal) : CG :=
  (c.add val.lab.vertex).edge (.func k) val.lab.vertex (reqWeight val.lab)

/-- `funcGraph` without the outputs: the function vertex and its requirement edges -/
def funcIn (c : CG) (f : FuncDesc) : CG :=
  f.input.values.foldl (reqStep f.key)
    (if f.input.empty then (c.add (.func f.key)).edge (.func f.key) .root weightNormal
     else c.add (.func f.key))

def outNamedStep (k : Nat) (c : CG) (p : String × SVal) : CG :=
  (c.add (.value p.1 p.2.lab.ty p.2.lab.sub)).edge (.value p.1 p.2.lab.ty p.2.lab.sub) (.func k)
    weightNormal

def outTypedStep (k : Nat) (c : CG) (p : Nat × SVal) : CG :=
  (c.add (.out p.2.lab.ty p.2.lab.sub)).edge (.out p.2.lab.ty p.2.lab.sub) (.func k) weightTyped

theorem reqStep_eq (k : Nat) (c : CG) (val : SVal) :
    (if val.lab.name ≠ "" then
      (c.add (.value val.lab.name val.lab.ty val.lab.sub)).edge (.func k)
        (.value val.lab.name val.lab.ty val.lab.sub) weightNormal
    else
      (c.add (.arg val.lab.ty val.lab.sub)).edge (.func k) (.arg val.lab.ty val.lab.sub)
        weightTyped) = reqStep k c val := by
  unfold reqStep Label.vertex reqWeight
  by_cases h : val.lab.name ≠ ""
  · rw [if_pos h, if_pos h, if_pos h]
  · rw [if_neg h, if_neg h, if_neg h]

theorem funcGraph_false (c : CG) (f : FuncDesc) : funcGraph c f false = funcIn c f := by
  unfold funcGraph funcIn
  simp only [reqStep_eq]
  rfl

theorem funcGraph_true (c : CG) (f : FuncDesc) :
    funcGraph c f true =
      f.output.typed.foldl (outTypedStep f.key)
        (f.output.named.foldl (outNamedStep f.key) (funcIn c f)) := by
  unfold funcGraph funcIn
  simp only [reqStep_eq]
  rfl

theorem Prune.vertex_ne_root (p : Label) : p.vertex ≠ .root := by
  unfold Label.vertex
  split <;> exact fun h => by cases h

/-! ### `inputsGraph` -/

namespace Prune

/-- the supplied values with their vertices, in the order `inputsGraph` goes through them -/
def inputsPairs (b : Builder) : List (Vtx × Val) :=
  b.named.map (fun p => (Vtx.value p.1 p.2.ty "", p.2)) ++
  b.namedSub.map (fun p => (Vtx.value p.1.1 p.2.ty p.1.2, p.2)) ++
  b.typed.map (fun p => (Vtx.out p.1 "", p.2)) ++
  b.typedSub.map (fun p => (Vtx.out p.1.1 p.1.2, p.2))

/-- the vertex-list component of `inputsGraph` -/
def inputsList (b : Builder) : List Vtx :=
  b.named.map (fun p => Vtx.value p.1 p.2.ty "") ++
  b.namedSub.map (fun p => Vtx.value p.1.1 p.2.ty p.1.2) ++
  b.typed.map (fun p => Vtx.out p.1 "") ++
  b.typedSub.map (fun p => Vtx.out p.1.1 p.1.2)

theorem inputsList_eq (b : Builder) : inputsList b = (inputsPairs b).map (·.1) := by
  simp [inputsList, inputsPairs, List.map_append, List.map_map, Function.comp_def]

theorem mem_inputsList {b : Builder} {u : Vtx} :
    u ∈ inputsList b ↔ ∃ x, (u, x) ∈ inputsPairs b := by
  rw [inputsList_eq, List.mem_map]
  constructor
  · rintro ⟨vx, h, rfl⟩; exact ⟨vx.2, h⟩
  · rintro ⟨x, h⟩; exact ⟨_, h, rfl⟩

theorem inputsList_kind {b : Builder} {u : Vtx} (hu : u ∈ inputsList b) :
    u.isValue = true ∨ u.isOut = true := by
  simp only [inputsList, List.mem_append, List.mem_map] at hu
  rcases hu with ((⟨p, _, rfl⟩ | ⟨p, _, rfl⟩) | ⟨p, _, rfl⟩) | ⟨p, _, rfl⟩
  · exact .inl rfl
  · exact .inl rfl
  · exact .inr rfl
  · exact .inr rfl

end Prune

def supply (c : CG) (vx : Vtx × Val) : CG := (c.addValued vx.1 vx.2).edge vx.1 .root weightNormal

theorem foldl_supply {β : Type} (v : β → Vtx) (x : β → Val) (l : List β) :
    ∀ (c : CG) (L : List Vtx),
    l.foldl (fun (acc : CG × List Vtx) p =>
      (((acc.1.addValued (v p) (x p)).edge (v p) .root weightNormal), acc.2 ++ [v p])) (c, L) =
    ((l.map (fun p => (v p, x p))).foldl supply c, L ++ l.map v) := by
  induction l with
  | nil => intro c L; simp
  | cons a l ih =>
    intro c L
    rw [List.foldl_cons, ih]
    simp [supply]

theorem inputsGraph_eq (c : CG) (b : Builder) :
    inputsGraph c b = ((Prune.inputsPairs b).foldl supply c, Prune.inputsList b) := by
  unfold inputsGraph Prune.inputsPairs Prune.inputsList
  dsimp only
  rw [foldl_supply (fun p : String × Val => Vtx.value p.1 p.2.ty "") (fun p => p.2),
    foldl_supply (fun p : (String × String) × Val => Vtx.value p.1.1 p.2.ty p.1.2) (fun p => p.2),
    foldl_supply (fun p : Nat × Val => Vtx.out p.1 "") (fun p => p.2),
    foldl_supply (fun p : (Nat × String) × Val => Vtx.out p.1.1 p.1.2) (fun p => p.2)]
  simp [List.foldl_append]

/-! ### the rule phases -/

/-- the double loop of R5, R6 and both halves of R7: from every present vertex chosen by `p`, an
edge of weight `w` to every present vertex that `q` relates to it -/
def nested (p : Vtx → Bool) (q : Vtx → Vtx → Bool) (w : Int) (c : CG) : CG :=
  (c.g.verts.filter p).foldl (fun c v =>
    (c.g.verts.filter (q v)).foldl (fun c v2 => c.edge v v2 w) c) c

def r5p (e : TypeEnv) (v : Vtx) : Bool := v.isOut && e.isIface v.ty
def r5q (e : TypeEnv) (skipSame : Bool) (v v2 : Vtx) : Bool :=
  v2.isOut && decide (v2 ≠ v) && e.impl v2.ty v.ty && !(skipSame && v2.ty == v.ty)
def r6p (c : CG) (v : Vtx) : Bool := v.isValue && v.sub == "" && (c.valueOf v).isNone
def r6q (nameTest : Bool) (v v2 : Vtx) : Bool :=
  v2.isValue && v2.ty == v.ty && v2.sub != "" && !(nameTest && v2.name != v.name)
def r7p (v : Vtx) : Bool := v.isArg && v.sub == ""
def r7q (v v2 : Vtx) : Bool := v2.isOut && v2.ty == v.ty && v2.sub != ""
def r7p' (v : Vtx) : Bool := v.isArg && v.sub != ""
def r7q' (v v2 : Vtx) : Bool := v2.isOut && v2.ty == v.ty && v2.sub == ""

theorem phaseR5_eq (e : TypeEnv) (sk : Bool) (c : CG) :
    phaseR5 e sk c = nested (r5p e) (r5q e sk) weightTyped c := rfl

theorem phaseR6_eq (nt : Bool) (c : CG) :
    phaseR6 nt c = nested (r6p c) (r6q nt) weightTyped c := rfl

theorem phaseR7_eq (c : CG) :
    phaseR7 c = nested r7p' r7q' weightTypedOtherSubtype (nested r7p r7q weightTypedOtherSubtype c) :=
  rfl

namespace RedefineInputs

/-- does the input filter admit a value of this type? (`none` = no filter given) -/
def passesF (e : TypeEnv) (fin : Option Filter) (t : Nat) : Bool :=
  match fin with
  | none => true
  | some f => f.eval e t

end RedefineInputs

def r8Step (e : TypeEnv) (filter : Option Filter) (sk : Bool) (c : CG) (v : Vtx) : CG :=
  if (sk && v.isArg && (c.valueOf (.out v.ty v.sub)).isSome) = true ∨
      RedefineInputs.passesF e filter v.ty = false then c
  else c.edge v .root weightNormal

theorem phaseR8_eq (e : TypeEnv) (filter : Option Filter) (sk : Bool) (c : CG) :
    phaseR8 e filter sk c =
      (c.g.verts.filter (fun v => v.isValue || v.isArg)).foldl (r8Step e filter sk) c := by
  unfold phaseR8
  congr 1
  funext c v
  unfold r8Step RedefineInputs.passesF
  cases filter with
  | none => simp
  | some f => by_cases h : f.eval e v.ty = true <;> simp [h]

/-! ### the stages -/

namespace Prune

def convStep (funcs : Nat → Option FuncDesc) (c : CG) (fid : Nat) : CG :=
  match funcs fid with
  | some f => funcGraph c f true
  | none => c

end Prune

namespace ExactWins

def c0 : CG := CG.empty.add .root

def c1 (target : FuncDesc) : CG := funcGraph c0 target false

def c2 (b : Builder) (target : FuncDesc) : CG := (inputsGraph (c1 target) b).1

def c3 (b : Builder) (funcs : Nat → Option FuncDesc) (target : FuncDesc) : CG :=
  b.convs.foldl (fun c fid => match funcs fid with
    | some f => funcGraph c f true
    | none => c) (c2 b target)

def pre (e : TypeEnv) (b : Builder) (funcs : Nat → Option FuncDesc) (target : FuncDesc) : CG :=
  phaseR7 (phaseR6 true (phaseR5 e true (phaseR4 (phaseR3 (c3 b funcs target)))))

def Kept (c : CG) (t : Vtx) (x : Vtx) : Prop :=
  x = .root ∨ x ∈ (Traverse.DFS c.g.reverse (fun v => if v = t then .skip else .descend) .root).log

end ExactWins

open ExactWins

theorem c3_eq (b : Builder) (funcs : Nat → Option FuncDesc) (target : FuncDesc) :
    c3 b funcs target = b.convs.foldl (Prune.convStep funcs) (c2 b target) := rfl

def preV (var : Variant) (e : TypeEnv) (b : Builder) (funcs : Nat → Option FuncDesc)
    (target : FuncDesc) : CG :=
  phaseR7 (phaseR6 var.r6NameTest (phaseR5 e var.r5SkipSame (phaseR4 (phaseR3 (c3 b funcs target)))))

def lastV (var : Variant) (e : TypeEnv) (b : Builder) (funcs : Nat → Option FuncDesc)
    (target : FuncDesc) (rd : Bool) (filter : Option Filter) : CG :=
  if rd then phaseR8 e filter var.r8SkipSupplied (preV var e b funcs target)
  else preV var e b funcs target

theorem preV_std (e : TypeEnv) (b : Builder) (funcs : Nat → Option FuncDesc) (target : FuncDesc) :
    preV {} e b funcs target = pre e b funcs target := rfl

theorem lastV_false (var : Variant) (e : TypeEnv) (b : Builder) (funcs : Nat → Option FuncDesc)
    (target : FuncDesc) (filter : Option Filter) :
    lastV var e b funcs target false filter = preV var e b funcs target :=
  if_neg Bool.false_ne_true

theorem lastV_true (var : Variant) (e : TypeEnv) (b : Builder) (funcs : Nat → Option FuncDesc)
    (target : FuncDesc) (filter : Option Filter) :
    lastV var e b funcs target true filter =
      phaseR8 e filter var.r8SkipSupplied (preV var e b funcs target) :=
  if_pos rfl

theorem callGraph_eq (var : Variant) (e : TypeEnv) (b : Builder) (funcs : Nat → Option FuncDesc)
    (target : FuncDesc) (rd : Bool) (filter : Option Filter) :
    callGraph var e b funcs target rd filter =
      { cg := prune (lastV var e b funcs target rd filter) (.func target.key),
        target := .func target.key,
        reqs := (c1 target).g.outs (.func target.key),
        inputs := (inputsGraph (c1 target) b).2,
        unsat := (((c1 target).g.outs (.func target.key)).filter (fun r =>
          !(prune (lastV var e b funcs target rd filter) (.func target.key)).g.hasVertex r)).map
            Vtx.label } := rfl

section
variable (var : Variant) (e : TypeEnv) (b : Builder) (funcs : Nat → Option FuncDesc)
  (target : FuncDesc) (rd : Bool) (filter : Option Filter)

theorem callGraph_cg : (callGraph var e b funcs target rd filter).cg =
    prune (lastV var e b funcs target rd filter) (.func target.key) := by
  rw [callGraph_eq]

theorem callGraph_inputs : (callGraph var e b funcs target rd filter).inputs = Prune.inputsList b := by
  rw [callGraph_eq, inputsGraph_eq]

theorem callGraph_unsat : (callGraph var e b funcs target rd filter).unsat =
    (((c1 target).g.outs (.func target.key)).filter (fun r =>
      !(prune (lastV var e b funcs target rd filter) (.func target.key)).g.hasVertex r)).map
        Vtx.label := by
  rw [callGraph_eq]

end

end ArgMapper
