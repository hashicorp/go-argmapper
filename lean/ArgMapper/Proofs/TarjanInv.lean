import ArgMapper.Proofs.TarjanBasic
/-!
# Tarjan's SCC algorithm: the invariant

`Inv g gr a` is the usual invariant of the algorithm relative to the (implicit) list `gr` of "gray"
vertices, i.e. the vertices whose `visit` call is still running.  `Ext a a'` says that `a'` is a later
state than `a`.  `Pre`/`Post` form the contract of `sccVisit`.
-/
namespace ArgMapper
namespace Tarjan
open AGraph Traverse TraverseReach
variable {α : Type} [DecidableEq α]
variable {g : AGraph α} {gr : List α} {a : SccAcct α}

structure Inv (g : AGraph α) (gr : List α) (a : SccAcct α) : Prop where
  next_pos : 1 ≤ a.next
  idx_lt : ∀ x, idxOf a x < a.next
  vis_verts : ∀ x, idxOf a x ≠ 0 → x ∈ g.verts
  vis_iff : ∀ x, idxOf a x ≠ 0 ↔ (x ∈ a.stack ∨ x ∈ a.scc.flatten)
  disj : ∀ x, x ∈ a.stack → x ∉ a.scc.flatten
  scc_nodup : a.scc.flatten.Nodup
  sorted : a.stack.Pairwise (fun p q => idxOf a q < idxOf a p)
  gray_stack : ∀ x ∈ gr, x ∈ a.stack
  closed : ∀ x y, g.hasEdge x y = true → idxOf a x ≠ 0 → x ∉ gr → idxOf a y ≠ 0
  gray_reach : ∀ x ∈ gr, ∀ y ∈ a.stack, idxOf a x ≤ idxOf a y → Reach g x y
  stack_reach : ∀ y ∈ a.stack, ∃ x ∈ gr, idxOf a x ≤ idxOf a y ∧ Reach g y x
  scc_ok : ∀ c ∈ a.scc, c ≠ [] ∧ ∀ u ∈ c, ∀ v, v ∈ c ↔ (Reach g u v ∧ Reach g v u)

theorem Inv.stack_vis (h : Inv g gr a) {x : α}
    (hx : x ∈ a.stack) : idxOf a x ≠ 0 := (h.vis_iff x).mpr (Or.inl hx)

theorem Inv.stack_nodup (h : Inv g gr a) :
    a.stack.Nodup := by
  unfold List.Nodup
  exact h.sorted.imp (fun hlt heq => by subst heq; omega)

structure Ext (a a' : SccAcct α) : Prop where
  stack : ∃ s, a'.stack = s ++ a.stack
  idx_pres : ∀ y, idxOf a y ≠ 0 → idxOf a' y = idxOf a y
  idx_new : ∀ y, idxOf a y = 0 → idxOf a' y ≠ 0 → a.next ≤ idxOf a' y
  next_le : a.next ≤ a'.next
  scc : ∃ cs, a'.scc = a.scc ++ cs

theorem Ext.refl (a : SccAcct α) : Ext a a :=
  ⟨⟨[], by simp⟩, fun _ _ => rfl, fun _ h h' => absurd h h', Nat.le_refl _, ⟨[], by simp⟩⟩

theorem Ext.vis {a a' : SccAcct α} (h : Ext a a') {y : α} (hy : idxOf a y ≠ 0) : idxOf a' y ≠ 0 := by
  rw [h.idx_pres y hy]; exact hy

theorem Ext.trans {a a' a'' : SccAcct α} (h1 : Ext a a') (h2 : Ext a' a'') : Ext a a'' := by
  refine ⟨?_, ?_, ?_, Nat.le_trans h1.next_le h2.next_le, ?_⟩
  · obtain ⟨s1, e1⟩ := h1.stack
    obtain ⟨s2, e2⟩ := h2.stack
    exact ⟨s2 ++ s1, by rw [e2, e1]; simp⟩
  · intro y hy
    rw [h2.idx_pres y (h1.vis hy), h1.idx_pres y hy]
  · intro y hy hy''
    by_cases hy' : idxOf a' y = 0
    · exact Nat.le_trans h1.next_le (h2.idx_new y hy' hy'')
    · rw [h2.idx_pres y hy']; exact h1.idx_new y hy hy'
  · obtain ⟨c1, e1⟩ := h1.scc
    obtain ⟨c2, e2⟩ := h2.scc
    exact ⟨c1 ++ c2, by rw [e2, e1]; simp⟩

theorem Ext.stack_mem {a a' : SccAcct α} (h : Ext a a') {y : α} (hy : y ∈ a.stack) : y ∈ a'.stack := by
  obtain ⟨s, e⟩ := h.stack
  rw [e]; exact List.mem_append_right _ hy

theorem Ext.whiteCount_le (g : AGraph α) {a a' : SccAcct α} (h : Ext a a') :
    whiteCount g a' ≤ whiteCount g a :=
  whiteCount_mono g (fun _ hx => h.vis hx)

/-- contract of `sccVisit g n v a`, relative to the gray vertices `gr` -/
structure Pre (g : AGraph α) (gr : List α) (n : Nat) (v : α) (a : SccAcct α) : Prop where
  inv : Inv g gr a
  vmem : v ∈ g.verts
  white : idxOf a v = 0
  access : ∀ y ∈ gr, Reach g y v
  fuel : whiteCount g a < n

structure Post (g : AGraph α) (gr : List α) (v : α) (a : SccAcct α) (r : SccAcct α × Nat) : Prop where
  inv : Inv g gr r.1
  ext : Ext a r.1
  vis : idxOf r.1 v = a.next
  reach : r.2 < a.next → ∃ y ∈ r.1.stack, r.2 = idxOf r.1 y ∧ Reach g v y
  /-- every edge from a vertex pushed during the call back into the old stack is accounted for -/
  xedge : ∀ p ∈ r.1.stack, p ∉ a.stack → ∀ y ∈ a.stack, g.hasEdge p y = true → r.2 ≤ idxOf r.1 y

/-! ## pushing the vertex -/

theorem idxOf_push_self (v : α) (a : SccAcct α) : idxOf (push v a) v = a.next := by
  rw [idxOf_push, if_pos rfl]

theorem idxOf_push_of_vis {v : α} (hw : idxOf a v = 0) {x : α} (hx : idxOf a x ≠ 0) :
    idxOf (push v a) x = idxOf a x := by
  rw [idxOf_push, if_neg (fun e : x = v => hx (e ▸ hw))]

theorem idxOf_push_ne_zero {v : α} (hpos : 1 ≤ a.next) {x : α} :
    idxOf (push v a) x ≠ 0 ↔ x = v ∨ idxOf a x ≠ 0 := by
  rw [idxOf_push]
  split
  · simpa [*] using Nat.ne_of_gt hpos
  · simp [*]

theorem ext_push {v : α} (hpos : 1 ≤ a.next) (hw : idxOf a v = 0) :
    Ext a (push v a) := by
  refine ⟨⟨[v], rfl⟩, fun y hy => idxOf_push_of_vis hw hy, ?_, Nat.le_succ _, ⟨[], by simp⟩⟩
  intro y hy hy'
  rcases (idxOf_push_ne_zero hpos).1 hy' with rfl | h
  · exact Nat.le_of_eq (idxOf_push_self y a).symm
  · exact absurd hy h

theorem inv_push {n : Nat} {v : α}
    (hp : Pre g gr n v a) : Inv g (v :: gr) (push v a) := by
  have hi := hp.inv
  have hw := hp.white
  have hpos := hi.next_pos
  have hstk : ∀ y ∈ a.stack, idxOf (push v a) y = idxOf a y :=
    fun y hy => idxOf_push_of_vis hw (hi.stack_vis hy)
  refine ⟨Nat.le_succ_of_le hpos, ?_, ?_, ?_, ?_, hi.scc_nodup, ?_, ?_, ?_, ?_, ?_, hi.scc_ok⟩
  · intro x
    rw [idxOf_push]
    split
    · exact Nat.lt_succ_self _
    · exact Nat.lt_succ_of_lt (hi.idx_lt x)
  · intro x hx
    rcases (idxOf_push_ne_zero hpos).1 hx with rfl | hx
    · exact hp.vmem
    · exact hi.vis_verts x hx
  · intro x
    rw [idxOf_push_ne_zero hpos, hi.vis_iff x, push_stack, push_scc, List.mem_cons, or_assoc]
  · intro x hx hc
    rcases List.mem_cons.1 hx with rfl | hx
    · exact (hi.vis_iff x).mpr (Or.inr hc) hw
    · exact hi.disj x hx hc
  · refine List.pairwise_cons.2 ⟨fun q hq => ?_, hi.sorted.imp_of_mem ?_⟩
    · rw [hstk q hq, idxOf_push_self]
      exact hi.idx_lt q
    · intro p q hp' hq' h
      rwa [hstk p hp', hstk q hq']
  · exact fun x hx => List.cons_subset_cons v (fun y => hi.gray_stack y) hx
  · intro x y he hx hxg
    have hxv : x ≠ v := fun e => hxg (e ▸ List.mem_cons_self)
    exact (idxOf_push_ne_zero hpos).2 (Or.inr (hi.closed x y he
      (((idxOf_push_ne_zero hpos).1 hx).resolve_left hxv) (fun h => hxg (List.mem_cons_of_mem _ h))))
  · -- `v` has the largest index, so among the gray vertices only `v` itself looks at `v`
    intro x hx y hy hle
    rcases List.mem_cons.1 hx with rfl | hxg <;> rcases List.mem_cons.1 hy with rfl | hys
    · exact Reach.refl _
    · rw [idxOf_push_self, hstk y hys] at hle
      exact absurd (hi.idx_lt y) (Nat.not_lt.2 hle)
    · exact hp.access x hxg
    · rw [hstk x (hi.gray_stack x hxg), hstk y hys] at hle
      exact hi.gray_reach x hxg y hys hle
  · intro y hy
    rcases List.mem_cons.1 hy with rfl | hy
    · exact ⟨y, List.mem_cons_self, Nat.le_refl _, Reach.refl _⟩
    · obtain ⟨x, hxg, hle, hr⟩ := hi.stack_reach y hy
      refine ⟨x, List.mem_cons_of_mem _ hxg, ?_, hr⟩
      rwa [hstk x (hi.gray_stack x hxg), hstk y hy]

end Tarjan
end ArgMapper
