import ArgMapper.Props.C03
import ArgMapper.Props.C05
import ArgMapper.Proofs.Sig
import ArgMapper.Proofs.Concrete
/-!
# Counterexample to the original statement of `C06.no_walk_panic` (third conjunct, `missingArg`)

A converter with **two** inputs of which only one can be obtained.  Pruning keeps the converter's
vertex (it is reachable from the root through the obtainable input) but removes the vertex of the other
input.  The converter lies on the only path to the target's parameter, the nested search for the
converter sees a single requirement (already filled), and `callDirect` looks the second parameter up in
an argument map that does not hold it: "argument cannot be satisfied … This is a bug in the go-argmapper
library".

In Go terms (replayed on the real library, same outcome):

    type A struct{ X int }; type B struct{ X int }; type C struct{ X int }
    f, _ := argmapper.NewFunc(func(c C) int { return 1 })
    res := f.Call(argmapper.Typed(A{1}),
                  argmapper.Converter(func(a A, b B) C { return C{a.X} }))
    // res.Err(): "argument cannot be satisfied: type: B. This is a bug in the go-argmapper library …"

Types: `A = 1`, `B = 2`, `C = 3`.  Every value set below is the one `newFunc` builds for that signature.
-/
namespace ArgMapper.WalkPanicCE
open ArgMapper

def e0 : TypeEnv := ⟨fun _ => false, fun _ _ => false⟩
def tv (t i : Nat) : SVal := ⟨⟨"", t, ""⟩, i⟩

/-- the lifted set of `(C)` -/
def setC : ValueSet := ⟨true, 0, [tv 3 0], [], [(3, tv 3 0)], true⟩
/-- the lifted set of `(A, B)` -/
def setAB : ValueSet := ⟨true, 0, [tv 1 0, tv 2 1], [], [(1, tv 1 0), (2, tv 2 1)], true⟩

/-- target `func(C)` -/
def tgt : FuncDesc := ⟨0, 0, setC, ValueSet.nil, false, false⟩
/-- converter `func(A, B) C` -/
def conv : FuncDesc := ⟨1, 1, setAB, setC, false, false⟩

theorem vsC : newValueSet [.plain 3] = .ok setC := by
  rw [newValueSet_eq_lifted _ (by decide) (by decide), newValueSetLifted_eq _ (by decide)]
  rfl
theorem vsAB : newValueSet [.plain 1, .plain 2] = .ok setAB := by
  rw [newValueSet_eq_lifted _ (by decide) (by decide), newValueSetLifted_eq _ (by decide)]
  rfl

/-- `newFunc` in the form used by `newFunc_ok` -/
theorem newFunc_of {ins outs : List Param} {i o : ValueSet} (hi : newValueSet ins = .ok i)
    (hl : lastIsErr outs = false) (ho : newValueSet outs = .ok o) :
    newFunc ins outs = .ok ⟨i, o, false⟩ := by
  rw [newFunc_eq, hi, hl]
  simp only [Bool.false_eq_true, if_false]
  rw [ho]

/-- the value sets are the ones the model of `NewFunc` builds for `func(C)` and `func(A, B) C` -/
theorem tgt_is_newFunc : newFunc [.plain 3] [] = .ok ⟨tgt.input, tgt.output, tgt.hasErr⟩ :=
  newFunc_of vsC (by decide) rfl
theorem conv_is_newFunc : newFunc [.plain 1, .plain 2] [.plain 3] = .ok ⟨conv.input, conv.output, conv.hasErr⟩ :=
  newFunc_of vsAB (by decide) vsC

def funcs : Nat → Option FuncDesc := fun i => if i = 1 then some conv else none
/-- `Typed(A{…})`, `Converter(conv)` -/
def b : Builder := { Builder.empty with typed := [(1, ⟨1, 10⟩)], convs := [1] }

theorem b_is_built : build [.typed [some ⟨1, 10⟩], .conv [some 1]] = .ok b := by decide

def beh0 : Nat → Nat → List PVal → BehOut := fun _ _ _ => ⟨[7], none⟩

/-- the only path to the target's parameter, then the nested search of the converter (nothing missing:
its one surviving requirement `arg A` was filled by the walk) -/
def orc : List OrcItem :=
  [⟨.func 0, [.arg 3 ""], [[.root, .out 1 "", .arg 1 "", .func 1, .out 3 "", .arg 3 ""]]⟩,
   ⟨.func 1, [], []⟩]

abbrev cgr : CallGraphResult := callGraph {} e0 b funcs tgt false none

/-- the pruned graph keeps the converter's vertex but not the vertex `arg B` of its second parameter -/
def G : AGraph Vtx :=
  ⟨[.root, .func 0, .arg 3 "", .out 1 "", .func 1, .arg 1 "", .out 3 ""],
   [(.func 0, .arg 3 "", 5), (.out 1 "", .root, 1), (.func 1, .arg 1 "", 5), (.out 3 "", .func 1, 5),
    (.arg 3 "", .out 3 "", 5), (.arg 1 "", .out 1 "", 5)]⟩

theorem cgr_eq : cgr = ⟨⟨G, [(.out 1 "", ⟨1, 10⟩)]⟩, .func 0, [.arg 3 ""], [.out 1 ""], []⟩ :=
  CallGraphResult.eq_mk (by decide +kernel)

def run : Outcome × CallSt :=
  callWith (C01.stdCtx e0 b funcs tgt beh0) cgr tgt 5 (initSt cgr.cg [] orc)

theorem consistent : C01.FuncsConsistent (C01.allFuncs b funcs tgt) := by
  unfold C01.FuncsConsistent ValueSet.KeysOK; decide +kernel

theorem setsWF : C05.SetsWF (C01.allFuncs b funcs tgt) := by
  unfold C05.SetsWF; decide +kernel

theorem builderOK : C03.BuilderOK b := by
  unfold C03.BuilderOK C03.NamedOK
  decide

theorem legal : ∀ it ∈ orc, C03.LegalItem cgr.cg.g it := by
  rw [cgr_eq]
  intro it hit
  simp only [orc, List.mem_cons, List.not_mem_nil, or_false] at hit
  rcases hit with rfl | rfl
  · exact .cons [.root, .out 1 "", .arg 1 "", .func 1, .out 3 "", .arg 3 "", .func 0] (by decide +kernel) (.nil _ _ _)
  · exact .nil _ _ _

/-- **the counterexample**: every hypothesis of the original `C06.no_walk_panic` holds and the call ends in
`missingArg`; exactly one function body would have been run (none was: the log is empty) -/
theorem missingArg_reached :
    ImplTrans e0 ∧ C03.BuilderOK b ∧ C01.FuncsConsistent (C01.allFuncs b funcs tgt) ∧
    C05.SetsWF (C01.allFuncs b funcs tgt) ∧ C03.SmallGraph cgr.cg.g ∧ (∀ it ∈ orc, C03.LegalItem cgr.cg.g it) ∧
    run.1 = .missingArg ∧ run.2.log = [] := by
  refine ⟨by intro a b c h; simp [e0] at h, builderOK, consistent, setsWF, ?_, legal, ?_⟩
  · rw [cgr_eq]; unfold C03.SmallGraph; decide
  · simp only [run, C01.stdCtx, cgr_eq]
    decide +kernel

/-! ### legality of the oracle is needed for "didn't reach a final value"

Target `func(struct{ argmapper.Struct; N T; X T `argmapper:",typeOnly"` })` called with
`NamedSubtype("n", T{…}, "x")`: the graph has the R6 edge `value n T "" → value n T "x"` and the R3 edges
`arg T "" → value n T "x"`, `arg T "" → value n T ""`.  The path `root, value n T x, value n T "", arg T ""`
is a real root-first path (cost 11), but not the one Dijkstra chooses (`root, value n T x, arg T ""`,
cost 6).  **Before the repair of finding F22** (`hopCopies := false`) walking it leaves the argument vertex empty:
the hop into the value-less vertex `value n T ""` publishes no value.  With the legal paths the call succeeds.
Since the repair (`hopCopies := true`, the default of `C01.stdCtx`) the hop copies the value of
`value n T "x"` into `value n T ""` and the call succeeds with the non-shortest path too
(`finalValue_illegal_ok_after_repair`). -/

def svN : SVal := ⟨⟨"n", 1, ""⟩, 1⟩
def svT : SVal := ⟨⟨"", 1, ""⟩, 2⟩
def tgt2 : FuncDesc :=
  ⟨0, 0, ⟨true, 0, [svN, svT], [("n", svN)], [(1, svT)], false⟩, ValueSet.nil, false, false⟩
def b2 : Builder := { Builder.empty with namedSub := [(("n", "x"), ⟨1, 10⟩)] }
def behNil : Nat → Nat → List PVal → BehOut := fun _ _ _ => ⟨[], none⟩

/-- real paths; the second is not a shortest one -/
def orcIllegal : List OrcItem :=
  [⟨.func 0, [.value "n" 1 "", .arg 1 ""],
    [[.root, .value "n" 1 "x", .value "n" 1 ""], [.root, .value "n" 1 "x", .value "n" 1 "", .arg 1 ""]]⟩]
/-- the paths Dijkstra chooses -/
def orcLegal : List OrcItem :=
  [⟨.func 0, [.value "n" 1 "", .arg 1 ""],
    [[.root, .value "n" 1 "x", .value "n" 1 ""], [.root, .value "n" 1 "x", .arg 1 ""]]⟩]

abbrev cgr2 : CallGraphResult := callGraph {} e0 b2 (fun _ => none) tgt2 false none

/-- the R6 edge `value n T "" → value n T "x"` and the R3 edges out of `arg T ""` -/
def G2 : AGraph Vtx :=
  ⟨[.root, .func 0, .value "n" 1 "", .arg 1 "", .value "n" 1 "x", .arg 1 "x"],
   [(.func 0, .value "n" 1 "", 1), (.func 0, .arg 1 "", 5), (.value "n" 1 "x", .root, 1),
    (.arg 1 "", .value "n" 1 "", 5), (.arg 1 "", .value "n" 1 "x", 5), (.arg 1 "x", .value "n" 1 "x", 5),
    (.value "n" 1 "", .value "n" 1 "x", 5)]⟩

theorem cgr2_eq :
    cgr2 = ⟨⟨G2, [(.value "n" 1 "x", ⟨1, 10⟩)]⟩, .func 0, [.value "n" 1 "", .arg 1 ""], [.value "n" 1 "x"], []⟩ :=
  CallGraphResult.eq_mk (by decide +kernel)

/-- the scenario run with the hop behaviour `hop` (`false`: before the repair of F22; `true`: the default of
`C01.stdCtx`) -/
def run2With (hop : Bool) (orc : List OrcItem) : Outcome × CallSt :=
  callWith { C01.stdCtx e0 b2 (fun _ => none) tgt2 behNil with hopCopies := hop }
    (callGraph {} e0 b2 (fun _ => none) tgt2 false none) tgt2 5
    (initSt (callGraph {} e0 b2 (fun _ => none) tgt2 false none).cg [] orc)

/-- the pre-repair context (`hopCopies := false`) -/
def run2 (orc : List OrcItem) : Outcome × CallSt := run2With false orc

theorem run2With_true (orc : List OrcItem) :
    run2With true orc =
      callWith (C01.stdCtx e0 b2 (fun _ => none) tgt2 behNil) (callGraph {} e0 b2 (fun _ => none) tgt2 false none) tgt2 5
        (initSt (callGraph {} e0 b2 (fun _ => none) tgt2 false none).cg [] orc) :=
  congrArg (callWith · _ _ _ _) (Ctx.with_hopCopies _ rfl)

/-- the four runs: the legal oracle succeeds before and after the repair of F22, the real but non-shortest path panics
before it and succeeds after it -/
theorem runs2 :
    (run2With false orcIllegal).1 = .panic .finalValue ∧ (run2With false orcLegal).1 = .ok ⟨[], none⟩ ∧
    (run2With true orcIllegal).1 = .ok ⟨[], none⟩ ∧ (run2With true orcLegal).1 = .ok ⟨[], none⟩ := by
  simp only [run2With, C01.stdCtx, cgr2_eq]
  decide +kernel

theorem finalValue_illegal_ok_after_repair :
    (run2With true orcIllegal).1 = .ok ⟨[], none⟩ ∧ (run2With true orcLegal).1 = .ok ⟨[], none⟩ :=
  runs2.2.2

/-- (pre-repair context, `hopCopies := false`) every hypothesis of `C06.no_walk_panic` except the legality of the
oracle holds (there is no converter at all), both paths of the oracle are valid paths, and the call panics;
with the legal oracle it succeeds -/
theorem finalValue_needs_legal :
    C03.BuilderOK b2 ∧ C01.FuncsConsistent (C01.allFuncs b2 (fun _ => none) tgt2) ∧
    C05.SetsWF (C01.allFuncs b2 (fun _ => none) tgt2) ∧
    C03.SmallGraph (callGraph {} e0 b2 (fun _ => none) tgt2 false none).cg.g ∧
    validPath (callGraph {} e0 b2 (fun _ => none) tgt2 false none).cg.g (.arg 1 "")
      [.root, .value "n" 1 "x", .value "n" 1 "", .arg 1 ""] = true ∧
    (run2 orcIllegal).1 = .panic .finalValue ∧
    (run2 orcLegal).1 = .ok ⟨[], none⟩ := by
  refine ⟨by unfold C03.BuilderOK C03.NamedOK; decide, by unfold C01.FuncsConsistent ValueSet.KeysOK; decide +kernel,
    by unfold C05.SetsWF; decide +kernel, ?_, ?_, runs2.1, runs2.2.1⟩
  · simp only [cgr2_eq, C03.SmallGraph]; decide
  · simp only [cgr2_eq]; decide +kernel

theorem orcLegal_legal :
    ∀ it ∈ orcLegal, C03.LegalItem (callGraph {} e0 b2 (fun _ => none) tgt2 false none).cg.g it := by
  simp only [cgr2_eq]
  intro it hit
  simp only [orcLegal, List.mem_singleton] at hit
  subst hit
  exact .cons [.root, .value "n" 1 "x", .value "n" 1 "", .func 0, .arg 1 "", .arg 1 "x"] (by decide +kernel)
    (.cons [.root, .value "n" 1 "x", .value "n" 1 "", .arg 1 "", .arg 1 "x", .func 0] (by decide +kernel) (.nil _ _ _))

end ArgMapper.WalkPanicCE
