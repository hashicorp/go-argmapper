import ArgMapper.Spec.Flow
import ArgMapper.Proofs.CallGraphGrow
/-!
# Edge characterisation of `callGraph` (C01)

Every edge of the graph `callGraph` builds is an instance of `EdgeRule`, and every vertex with an
entry in the value store is an origin vertex: each place where an edge is created (`Gen`) is an
instance of a rule, and only supplied values are stored.
-/
namespace ArgMapper
namespace CGE
open Generated

/-! ### `callGraph` -/

theorem inputsList_isOrigin (b : Builder) (u : Vtx) (hu : u ∈ Prune.inputsList b) : u.isOrigin = true := by
  rcases Prune.inputsList_kind hu with h | h <;> simp [Vtx.isOrigin, h]

/-- with the repaired R5 and R6, every place where an edge is created is an instance of a rule -/
theorem gen_edgeRule {P : Rules} (h5 : P.skipSame = true) (h6 : P.nameTest = true)
    (hins : ∀ x ∈ P.ins, x.isValue = true ∨ x.isOut = true) {u v : Vtx} {w : Int} (h : Gen P u v w) :
    EdgeRule P.env u v := by
  cases h with
  | funcRoot f => exact .funcReq _ _ (.inr (.inr rfl))
  | req f val =>
    refine .funcReq _ _ ?_
    unfold Label.vertex
    split
    · exact .inl rfl
    · exact .inr (.inl rfl)
  | input x hx => exact .inputRoot _ (hins _ hx)
  | outNamed f p => exact .outputFunc _ _ (.inl rfl)
  | outTyped f p => exact .outputFunc _ _ (.inr rfl)
  | valueOut n t s => exact .valueOut n t s
  | argValue n t s => exact .argValue n t s "" (.inl rfl)
  | argValueSub n t s => exact .argValue n t s s (.inr rfl)
  | argOut t s => exact .argOut t s
  | ifaceOut i s t' s' hi _ him hsk => exact .ifaceOut i s t' s' hi him (fun h => hsk ⟨h5, h⟩)
  | valueValue n t n' s' hs hn =>
    have : n' = n := Classical.not_not.1 fun h => hn ⟨h6, h⟩
    rw [this]
    exact .valueValue n t s' hs
  | argOutSub t s s' h => exact .argOutSub t s s' h
  | redefine v _ hk => exact .redefineRoot _ hk

theorem lastV_edgeOK (var : Variant) (hv5 : var.r5SkipSame = true) (hv6 : var.r6NameTest = true)
    (e : TypeEnv) (b : Builder) (funcs : Nat → Option FuncDesc)
    (target : FuncDesc) (redefining : Bool) (filter : Option Filter) :
    EdgeOK e (lastV var e b funcs target redefining filter).g := by
  intro x y h
  obtain ⟨w, hw⟩ := AGraph.hasEdge_iff_weight.1 h
  exact gen_edgeRule (P := rulesOf var e b funcs target redefining filter) hv5 hv6
    (fun _ => Prune.inputsList_kind) (lastV_weight var e b funcs target redefining filter hw)

theorem callGraph_store_isOrigin (e : TypeEnv) (b : Builder) (funcs : Nat → Option FuncDesc)
    (target : FuncDesc) (redefining : Bool) (filter : Option Filter) (x : Vtx) (v : Val)
    (h : mapGet (callGraph {} e b funcs target redefining filter).cg.store x = some v) :
    x.isOrigin = true := by
  unfold mapGet at h
  rw [Option.map_eq_some_iff] at h
  obtain ⟨p, hp, _⟩ := h
  have hmem := List.mem_of_find?_eq_some hp
  have hk := List.find?_some hp
  simp only [decide_eq_true_eq] at hk
  rw [← hk]
  rw [callGraph_cg, ExactWins.store_prune] at hmem
  exact inputsList_isOrigin b _
    (Prune.mem_inputsList.2 ⟨p.2, lastV_store {} e b funcs target redefining filter hmem⟩)

end CGE
end ArgMapper
