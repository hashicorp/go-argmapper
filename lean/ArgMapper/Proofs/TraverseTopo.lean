import ArgMapper.Proofs.TraverseKahn
import ArgMapper.Proofs.Maps
/-!
# Helper lemmas for `Props/C20.lean`: `topoShortestPath` computes exact distances on a DAG

The run of `topoShortestPath g L` is flattened into one `foldl` over the sequence of relaxed
edges (`edgeSeq`).  When `L` is a topological order, that sequence has the property that no edge
leaves a vertex before an edge that enters it (`Pairwise (a.1 ≠ b.2.1)`), so the value of a
vertex is final when its out-edges are relaxed.
-/
namespace ArgMapper
namespace C20
open AGraph
variable {α : Type} [DecidableEq α]

def IsDist (g : AGraph α) (u v : α) (d : Int) : Prop :=
  (∃ p, p.head? = some u ∧ p.getLast? = some v ∧ IsPath g p ∧ pathWeight g p = d) ∧
  ∀ p, p.head? = some u → p.getLast? = some v → IsPath g p → d ≤ pathWeight g p

end C20

namespace TraverseTopo
open AGraph Traverse TraverseKahn C20
variable {α : Type} [DecidableEq α]
variable {g : AGraph α} {root : α} {L : List α} {s : TopoSt α}

/-! ## `lookupD` / `setD` / `topoRelax` -/

theorem lookupD_setD (m : List (α × Int)) (v : α) (x : Int) (y : α) :
    lookupD (setD m v x) y = if y = v then some x else lookupD m y :=
  mapGet_mapSet m v y x

theorem relax_spec (s : TopoSt α) (u v : α) (w : Int) :
    (∀ y, y ≠ v → lookupD (topoRelax u s (v, w)).dist y = lookupD s.dist y) ∧
    ∃ d', lookupD (topoRelax u s (v, w)).dist v = some d' ∧
      d' ≤ (lookupD s.dist u).getD 0 + w ∧
      (∀ dv, lookupD s.dist v = some dv → d' ≤ dv) ∧
      (d' = (lookupD s.dist u).getD 0 + w ∨ lookupD s.dist v = some d') := by
  unfold topoRelax
  split
  · rename_i hnone
    simp only at hnone
    refine ⟨fun y hy => by simp [lookupD_setD, hy], _, by simp [lookupD_setD], Int.le_refl _, ?_, Or.inl rfl⟩
    intro dv hdv
    rw [hnone] at hdv
    cases hdv
  · rename_i dv hsome
    simp only at hsome
    split
    · rename_i hgt
      refine ⟨fun y hy => by simp [lookupD_setD, hy], _, by simp [lookupD_setD], Int.le_refl _, ?_,
        Or.inl rfl⟩
      intro dv' hdv'
      rw [hsome] at hdv'
      cases hdv'
      omega
    · rename_i hle
      refine ⟨fun y _ => rfl, dv, hsome, by omega, ?_, Or.inr hsome⟩
      intro dv' hdv'
      rw [hsome] at hdv'
      cases hdv'
      exact Int.le_refl _

/-! ## the flattened sequence of relaxations -/

def relaxE (s : TopoSt α) (e : α × α × Int) : TopoSt α := topoRelax e.1 s (e.2.1, e.2.2)

def edgeSeq (g : AGraph α) (L : List α) : List (α × α × Int) :=
  L.flatMap (fun u => (g.outsW u).map (fun e => (u, e.1, e.2)))

theorem topo_eq_foldl (g : AGraph α) (L : List α) :
    topoShortestPath g L = (edgeSeq g L).foldl relaxE { dist := [], prev := [] } := by
  unfold topoShortestPath edgeSeq
  rw [List.foldl_flatMap]
  congr 1
  funext s u
  rw [List.foldl_map]
  rfl

theorem mem_edgeSeq {e : α × α × Int} :
    e ∈ edgeSeq g L ↔ e.1 ∈ L ∧ e ∈ g.edges := by
  unfold edgeSeq
  simp only [List.mem_flatMap, List.mem_map]
  constructor
  · rintro ⟨u, hu, ⟨v, w⟩, hm, rfl⟩
    exact ⟨hu, mem_outsW.mp hm⟩
  · obtain ⟨u, v, w⟩ := e
    rintro ⟨hu, hm⟩
    exact ⟨u, hu, (v, w), mem_outsW.mpr hm, rfl⟩

theorem edgeSeq_pairwise (hL : IsTopo g L) :
    (edgeSeq g L).Pairwise (fun a b => a.1 ≠ b.2.1) := by
  have hrank : ∀ b ∈ edgeSeq g L, L.idxOf b.1 < L.idxOf b.2.1 := by
    intro b hb
    obtain ⟨u, v, w⟩ := b
    exact edge_rank hL (hasEdge_of_mem (mem_edgeSeq.mp hb).2)
  have hsrc : (edgeSeq g L).Pairwise (fun a b => L.idxOf a.1 ≤ L.idxOf b.1) := by
    unfold edgeSeq
    rw [List.pairwise_flatMap]
    constructor
    · intro u _
      apply List.pairwise_of_forall_mem_list
      intro a ha b hb
      simp only [List.mem_map] at ha hb
      obtain ⟨_, _, rfl⟩ := ha
      obtain ⟨_, _, rfl⟩ := hb
      exact Nat.le_refl _
    · rw [List.pairwise_iff_getElem]
      intro i j hi hj hij x hx y hy
      simp only [List.mem_map] at hx hy
      obtain ⟨_, _, rfl⟩ := hx
      obtain ⟨_, _, rfl⟩ := hy
      simp only
      rw [hL.1.idxOf_getElem i hi, hL.1.idxOf_getElem j hj]
      exact Nat.le_of_lt hij
  refine hsrc.imp_of_mem ?_
  intro a b _ hb hab heq
  have := hrank b hb
  rw [heq] at hab
  omega

/-! ## the invariant -/

/-- invariant after relaxing the edges in `E1` -/
structure Inv (g : AGraph α) (root : α) (E1 : List (α × α × Int)) (s : TopoSt α) : Prop where
  wit : ∀ v d, lookupD s.dist v = some d →
    ∃ p, p.head? = some root ∧ p.getLast? = some v ∧ IsPath g p ∧ pathWeight g p = d
  rel : ∀ e ∈ E1, ∃ d, lookupD s.dist e.2.1 = some d ∧ d ≤ (lookupD s.dist e.1).getD 0 + e.2.2
  non : ∀ v, (∀ e ∈ E1, e.2.1 ≠ v) → lookupD s.dist v = none

structure Seq (g : AGraph α) (root : α) (E : List (α × α × Int)) : Prop where
  edge : ∀ e ∈ E, g.hasEdge e.1 e.2.1 = true ∧ g.weight e.1 e.2.1 = some e.2.2
  ord : E.Pairwise (fun a b => a.1 ≠ b.2.1)
  noloop : ∀ e ∈ E, e.1 ≠ e.2.1
  hasIn : ∀ e ∈ E, e.1 ≠ root → ∃ e' ∈ E, e'.2.1 = e.1
  rootIn : ∀ e ∈ E, e.2.1 ≠ root

/-- the value at the source of the edge about to be relaxed is the weight of a path from the root:
the root itself has no value, any other source has an edge into it, relaxed earlier -/
theorem Inv.src_path {E E1 E2 : List (α × α × Int)} {e : α × α × Int}
    (hI : Inv g root E1 s) (hE : Seq g root E) (hsplit : E = E1 ++ e :: E2) :
    ∃ p, p.head? = some root ∧ p.getLast? = some e.1 ∧ IsPath g p ∧
      pathWeight g p = (lookupD s.dist e.1).getD 0 := by
  have heE : e ∈ E := hsplit ▸ List.mem_append_right _ List.mem_cons_self
  by_cases hur : e.1 = root
  · have hnone : lookupD s.dist e.1 = none := hI.non e.1 fun e' he' =>
      hur ▸ hE.rootIn e' (hsplit ▸ List.mem_append_left _ he')
    exact ⟨[e.1], congrArg some hur, rfl, trivial, by rw [hnone]; rfl⟩
  · obtain ⟨e', he'E, he't⟩ := hE.hasIn _ heE hur
    have he'1 : e' ∈ E1 := by
      rcases List.mem_append.mp (hsplit ▸ he'E) with h | h
      · exact h
      · have hord := List.pairwise_cons.1 (List.pairwise_append.1 (hsplit ▸ hE.ord)).2.1
        rcases List.mem_cons.mp h with rfl | h
        · exact absurd he't.symm (hE.noloop _ heE)
        · exact absurd he't.symm (hord.1 e' h)
    obtain ⟨du, hdu, _⟩ := hI.rel e' he'1
    rw [he't] at hdu
    obtain ⟨p, hp1, hp2, hp3, hp4⟩ := hI.wit e.1 du hdu
    exact ⟨p, hp1, hp2, hp3, by rw [hp4, hdu]; rfl⟩

theorem inv_step {E E1 E2 : List (α × α × Int)} {e : α × α × Int}
    (hE : Seq g root E) (hsplit : E = E1 ++ e :: E2) (hI : Inv g root E1 s) :
    Inv g root (E1 ++ [e]) (relaxE s e) := by
  obtain ⟨p, hp1, hp2, hp3, hp4⟩ := hI.src_path hE hsplit
  obtain ⟨u, v, w⟩ := e
  have heE : (u, v, w) ∈ E := hsplit ▸ List.mem_append_right _ List.mem_cons_self
  have hsrc1 : ∀ a ∈ E1, a.1 ≠ v := fun a ha =>
    (List.pairwise_append.1 (hsplit ▸ hE.ord)).2.2 a ha _ List.mem_cons_self
  have huv : u ≠ v := hE.noloop _ heE
  have hedge := hE.edge _ heE
  obtain ⟨hsame, d', hd', hle, hmono, hcase⟩ := relax_spec s u v w
  show Inv g root (E1 ++ [(u, v, w)]) (topoRelax u s (v, w))
  refine ⟨fun y d hy => ?_, fun a ha => ?_, fun y hy => ?_⟩
  · by_cases hyv : y = v
    · subst hyv
      obtain rfl : d' = d := Option.some.inj (hd'.symm.trans hy)
      rcases hcase with hnew | hold
      · -- a new value: the path to `u` extended by the edge
        exact ⟨p ++ [y], by rw [List.head?_append, hp1]; rfl, List.getLast?_concat,
          isPath_snoc hp2 hp3 hedge.1, by rw [pathWeight_snoc hp2, hp4, hedge.2, hnew]; rfl⟩
      · exact hI.wit y d' hold
    · exact hI.wit y d (hsame y hyv ▸ hy)
  · -- relaxed edges stay relaxed
    rcases List.mem_append.mp ha with ha1 | ha2
    · obtain ⟨d, hd, hdle⟩ := hI.rel a ha1
      rw [hsame _ (hsrc1 a ha1)]
      by_cases hav : a.2.1 = v
      · rw [hav] at hd ⊢
        exact ⟨d', hd', Int.le_trans (hmono d hd) hdle⟩
      · rw [hsame _ hav]
        exact ⟨d, hd, hdle⟩
    · rw [List.mem_singleton.1 ha2, hsame u huv]
      exact ⟨d', hd', hle⟩
  · have hyv : y ≠ v := fun h =>
      hy (u, v, w) (List.mem_append_right _ List.mem_cons_self) h.symm
    rw [hsame y hyv]
    exact hI.non y (fun e' he' => hy e' (List.mem_append_left _ he'))

theorem exists_in_edge {root x : α} (hr : Reach g root x) (hne : x ≠ root) :
    ∃ e ∈ g.edges, e.2.1 = x := by
  cases hr with
  | refl => exact absurd rfl hne
  | step _ he =>
    obtain ⟨c, hc⟩ := hasEdge_iff_mem.mp he
    exact ⟨_, hc, rfl⟩

theorem seq_edgeSeq (hwf : g.WF) (hroot : ∀ v ∈ g.verts, Reach g root v)
    (hL : IsTopo g L) : Seq g root (edgeSeq g L) := by
  have hall : ∀ e ∈ g.edges, e ∈ edgeSeq g L := fun e he =>
    mem_edgeSeq.mpr ⟨(hL.2.1 _).mpr (hwf.mem_verts he).1, he⟩
  refine ⟨fun e he => ?_, edgeSeq_pairwise hL, fun e he hab => ?_, fun e he har => ?_,
    fun e he hbr => ?_⟩ <;> have hm := (mem_edgeSeq.mp he).2
  · exact ⟨hasEdge_of_mem hm, weight_of_mem hwf hm⟩
  · have := edge_rank hL (hasEdge_of_mem hm)
    rw [hab] at this
    exact Nat.lt_irrefl _ this
  · obtain ⟨e', he', h⟩ := exists_in_edge (hroot e.1 (hwf.mem_verts hm).1) har
    exact ⟨e', hall e' he', h⟩
  · -- an edge into the root would close a cycle
    have h1 := edge_rank hL (hasEdge_of_mem hm)
    have h2 := reach_rank hL (hroot e.1 (hwf.mem_verts hm).1)
    rw [hbr] at h1
    exact Nat.lt_irrefl _ (Nat.lt_of_lt_of_le h1 h2)

theorem inv_foldl {E : List (α × α × Int)} (hE : Seq g root E) :
    ∀ (E2 E1 : List (α × α × Int)) (s : TopoSt α), E = E1 ++ E2 → Inv g root E1 s →
      Inv g root E (E2.foldl relaxE s) := by
  intro E2
  induction E2 with
  | nil =>
    intro E1 s h hI
    simp at h
    subst h
    exact hI
  | cons e E2 ih =>
    intro E1 s h hI
    rw [List.foldl_cons]
    exact ih (E1 ++ [e]) (relaxE s e) (by rw [h]; simp) (inv_step hE h hI)

theorem inv_init (g : AGraph α) (root : α) : Inv g root [] { dist := [], prev := [] } := by
  refine ⟨?_, ?_, ?_⟩
  · intro v d h; simp [lookupD] at h
  · intro e he; cases he
  · intro v _; simp [lookupD]

theorem lower_bound {E : List (α × α × Int)}
    (hall : ∀ e ∈ g.edges, e ∈ E) (hI : Inv g root E s) (v : α) :
    ∀ (p : List α) (x : α), p.head? = some x → p.getLast? = some v → IsPath g p →
      (lookupD s.dist v).getD 0 ≤ (lookupD s.dist x).getD 0 + pathWeight g p := by
  intro p
  induction p with
  | nil => intro x h; simp at h
  | cons a p ih =>
    intro x hh hl hp
    simp at hh
    subst hh
    cases p with
    | nil =>
      simp at hl
      subst hl
      simp [pathWeight]
    | cons b q =>
      rw [List.getLast?_cons_cons] at hl
      have h1 := ih b rfl hl hp.2
      obtain ⟨c, hc⟩ := hasEdge_iff_weight.mp hp.1
      obtain ⟨d, hd, hdle⟩ := hI.rel _ (hall _ (weight_some_mem hc))
      simp only at hd hdle
      rw [hd] at h1
      simp only [pathWeight, hc, Option.getD_some] at h1 ⊢
      omega

end TraverseTopo
end ArgMapper
