import ArgMapper.Proofs.Complete
import ArgMapper.Proofs.RedefineInputs
/-!
# Completeness of the planning run of `Redefine` on single-input converter sets (helper lemmas for C08b)

Dynamic part: the analogue of `Proofs/Complete.lean` for `reach c true …` on a graph with the
filter-gated root edges of rule R8.  The only difference to a `Call` graph is what may hang off the root:
besides function vertices and supplied vertices, any value / typed-argument vertex (`FactsR.toRoot`).
In redefine mode `planOne` stores a zero value at the first vertex of every chosen path, so the walk still
finds a value at the vertex that follows the root; the supplied-vertex predicate of `Complete.SInv` is
instantiated, after planning, with "supplied, or planned as the input of a chosen path".  What a successful
run records is in `Proofs/RedefineInputs.lean`; here: it fails only as the parameter `E` allows (`reach_top'`).
-/
namespace ArgMapper.RedefC
open ArgMapper WalkEqs ReachSound ReachEqs Complete CompleteLegal

/-- what the dynamic part needs to know about the context (`Complete.Facts` with the weaker `toRoot`) -/
structure FactsR (c : Ctx) (N : Prop) (tk : Nat) (Sup0 : Vtx → Prop) : Prop where
  hN : N → NE c
  pub : c.publishAfterUpdate = true
  tvn : c.takeValuedNamed = true
  mc : c.memoCopy = true
  tr : c.trackReaching = true
  sri : c.skipRecordsInput = false
  auto : c.auto = false
  trans : ImplTrans c.env
  edgeOK : EdgeOK c.env c.g
  valSub : ∀ x n t s, c.g.hasEdge x (.value n t s) = true → s = ""
  toRoot : ∀ x, c.g.hasEdge x .root = true → x.isFunc = true ∨ Sup0 x ∨ x.isValue = true ∨ x.isArg = true
  funcReq : ∀ k y, c.g.hasEdge (.func k) y = true →
    ∃ f, c.funcOf k = some f ∧ (y = .root ∨ ∃ v ∈ f.input.values, y = v.lab.vertex)
  funcKey : ∀ k f, c.funcOf k = some f → f.key = k
  funcRoot : ∀ k f, k ≠ tk → c.funcOf k = some f → c.g.hasEdge (.func k) .root = true →
    f.input.values = []
  single : ∀ k f, k ≠ tk → c.funcOf k = some f → f.input.values.length ≤ 1
  noTarget : ∀ x, c.g.hasEdge x (.func tk) = false
  outTyped : ∀ k f, c.funcOf k = some f → OutTyped f (c.g.ins (.func k))

variable {c : Ctx} {N : Prop} {tk : Nat} {Sup0 Sup : Vtx → Prop} {E : RErr → Prop}

theorem FactsR.toWalk (gf : FactsR c N tk Sup0) : WalkFacts c N :=
  { hN := gf.hN, pub := gf.pub, mc := gf.mc, trans := gf.trans, edgeOK := gf.edgeOK,
    noHop := .inr (no_hop_edge gf.edgeOK gf.valSub), funcKey := gf.funcKey, outTyped := gf.outTyped }

theorem FactsR.toSFacts (gf : FactsR c N tk Sup0) : SFacts c tk :=
  { tvn := gf.tvn, tr := gf.tr, funcReq := gf.funcReq, funcRoot := gf.funcRoot, single := gf.single,
    noTarget := gf.noTarget, noHop := .inr (no_hop_edge gf.edgeOK gf.valSub) }

/-! ### planning in redefine mode -/

open RedefineInputs

theorem sinv_zeroFill {s : CallSt} (h : SInv c N Sup s) (x : Vtx) : SInv c N Sup (zeroFill s x) := by
  rcases zeroFill_cases s x with e | e <;> rw [e]
  · exact h
  · exact h.set _ _ (TypeEnv.assignable_refl _ _)

theorem zeroFill_get_mono (s : CallSt) (x y : Vtx) (h : (s.get y).isSome = true) :
    ((zeroFill s x).get y).isSome = true := by
  rcases zeroFill_cases s x with e | e <;> rw [e]
  · exact h
  · rw [get_set]
    split
    · rfl
    · exact h

theorem planOne_sinv' (target : Vtx) (reaching : List Vtx) (trk : Bool) (ps : PlanSt) (cp : Vtx × List Vtx)
    (h : SInv c N Sup ps.s) : SInv c N Sup (planOne target reaching trk true ps cp).s := by
  rw [planOne_s]
  split
  · exact h
  · rename_i x _
    obtain ⟨ins, e⟩ := addInput_frame ps.s x
    rw [if_pos rfl, e]
    exact sinv_zeroFill (s := { ps.s with inputSet := ins }) (h.congr rfl rfl) x

theorem plan_redefine (reaching : List Vtx) (t : Vtx) (item : OrcItem) {st : CallSt} (hs : SInv c N Sup st) :
    SInv c N Sup (plan c true reaching t item st).s ∧
    ∀ cp ∈ item.missing.zip item.paths, ∀ y, pathInput cp.2 = some y → (y.isValue = true ∨ y.isArg = true) →
      ((plan c true reaching t item st).s.get y).isSome = true := by
  unfold plan
  refine ⟨foldl_inv (fun (ps : PlanSt) => SInv c N Sup ps.s) _ (fun ps cp h => planOne_sinv' _ _ _ ps cp h) _ _ hs,
    foldl_mem _ (fun (cp : Vtx × List Vtx) (ps : PlanSt) => ∀ y, pathInput cp.2 = some y →
        (y.isValue = true ∨ y.isArg = true) → (ps.s.get y).isSome = true) (fun _ _ => True)
      (fun ps cp y hy hk => ?_) (fun ps cp cp' _ h y hy hk => ?_) _ (List.pairwise_of_forall fun _ _ => trivial) _⟩
  · simp only [planOne_s, hy, ↓reduceIte]
    exact zeroFill_isSome _ y hk
  · rw [planOne_s]
    split
    · exact h y hy hk
    · rename_i x _
      rw [if_pos rfl]
      refine zeroFill_get_mono _ x y ?_
      obtain ⟨ins, e⟩ := addInput_frame ps.s x
      rw [e]
      exact h y hy hk

theorem reach_top' (gf : FactsR c N tk Sup0) (hEf : ∀ ε, ¬ N → E (.funcErr ε)) (hEb : ∀ w, E (.badOracle w))
    (m : Nat)
    (hrec : RecSpecE c E (fun v st => reach c true m [.func tk] v st)) (s : CallSt) (hs : SInv c N Sup0 s) :
    ∀ e, (reach c true (m + 1) [] (.func tk) s).1 = .error e → E e := by
  have hso := afterSkip_eq gf.sri s (.func tk)
  have hstep := reach_succ c true m [] (.func tk) s
  generalize reach c true (m + 1) [] (.func tk) s = r at hstep ⊢
  cases hstep with
  | badOracle w orc => exact fun e h => by cases h; exact hEb _
  | nothingMissing item rest hi hm => exact fun e h => by cases h
  | unsat item rest hi ok hu => rw [plan_unsat_top gf.tr gf.edgeOK gf.noTarget ok] at hu; cases hu
  | walk item rest hi ok hu =>
    rw [hso]
    obtain ⟨hs3, hpl⟩ := plan_redefine (c := c) [] (.func tk) item
      (hs.congr rfl rfl : SInv c N Sup0 { s with orc := rest })
    generalize (plan c true [] (.func tk) item { s with orc := rest }).s = s3 at hs3 hpl
    -- supplied, or planned as the input of a chosen path
    let Sup1 : Vtx → Prop := fun x => Sup0 x ∨
      ((x.isValue = true ∨ x.isArg = true) ∧ ∃ cp ∈ item.missing.zip item.paths, pathInput cp.2 = some x)
    have hs4 : PInv c N Sup1 (fun _ _ => True) s3 := by
      refine ⟨⟨hs3.typed, ?_, hs3.memo⟩, trivial⟩
      rintro x (hx | ⟨hk, cp, hcp, hpi⟩)
      · exact hs3.sup x hx
      · exact hpl cp hcp x hpi hk
    refine (walkPaths_good gf.toWalk ⟨hEf, fun h => (h trivial).elim, hEb⟩ _
      (hrec.recOK gf.toSFacts (fun _ _ _ h => h)) item.paths (fun p hp => ?_)
      (am0 c s (.func tk)) _ hs4 (.am0 hs.typed _)).1
    obtain ⟨cur, hcur, hz⟩ := ok.req_of_path hp
    have hk := missing_kind gf.edgeOK hcur
    have hv := ok.valid (cur, p) hz
    refine .of_valid hv hk (validPath_avoids hv hk gf.noTarget) ?_
    intro y rest' hpe hy
    have hpi : pathInput p = some y := by rw [hpe]; rfl
    rcases gf.toRoot y hy with h | h | h | h
    · exact Or.inl h
    · exact Or.inr (Or.inl h)
    · exact Or.inr (Or.inr ⟨Or.inl h, _, hz, hpi⟩)
    · exact Or.inr (Or.inr ⟨Or.inr h, _, hz, hpi⟩)

end ArgMapper.RedefC
