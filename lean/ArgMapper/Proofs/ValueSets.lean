import ArgMapper.Proofs.Sig
/-!
# Helper lemmas for C15: `NewValueSet` in closed form, lookups, signature round trips
-/
namespace ArgMapper

theorem find?_eq_some_of_unique {α : Type} {l : List α} {p : α → Bool} {x : α} (hx : x ∈ l)
    (hp : p x = true) (hu : ∀ y ∈ l, p y = true → y = x) : l.find? p = some x := by
  cases hf : l.find? p with
  | none => exact absurd hp (List.find?_eq_none.1 hf x hx)
  | some y => rw [hu y (List.mem_of_find?_eq_some hf) (List.find?_some hf)]

/-! ### `NewValueSet` -/

def rtLabel (l : Label) : Label := { l with name := lower l.name }
def rtVal (j : Nat) (l : Label) : SVal := { lab := rtLabel l, index := j + 1 }

theorem newValueSetOfValues_eq (vs : List Label)
    (ht : ∀ i l, vs[i]? = some l → fieldLabel (valueField i l) = { l with name := lower l.name }) :
    newValueSetOfValues vs = .ok
      { hasStruct := true, ptrs := 0, values := vs.mapIdx rtVal,
        named := (vs.mapIdx rtVal).foldl namedStep [],
        typed := (vs.mapIdx rtVal).foldl typedStep [], lifted := false } := by
  have hv : structVals 0 (markerField :: vs.mapIdx valueField) = vs.mapIdx rtVal := by
    have hk : ∀ f ∈ vs.mapIdx valueField, keep f = true := by
      intro f hf
      obtain ⟨j, l, _, rfl⟩ := mem_mapIdx_iff.1 hf
      rfl
    rw [structVals, show keep markerField = false from rfl, if_neg Bool.false_ne_true, List.nil_append,
      structVals_all_keep _ hk, List.mapIdx_mapIdx]
    refine List.mapIdx_eq_mapIdx_iff.2 fun i hi => ?_
    show (⟨fieldLabel (valueField i vs[i]), 0 + 1 + i⟩ : SVal) = ⟨rtLabel vs[i], i + 1⟩
    rw [ht i _ (List.getElem?_eq_getElem hi), Nat.zero_add, Nat.add_comm]; rfl
  rw [newValueSetOfValues, zipWith_range_eq_mapIdx, newValueSetFromStruct_eq 0 (Nat.zero_le 1), hv]

theorem rtVal_labels (vs : List Label) :
    (vs.mapIdx rtVal).map (·.lab) = vs.map (fun l => { l with name := lower l.name }) := by
  rw [map_mapIdx]; exact mapIdx_eq_map _ vs

theorem rtVal_indices (vs : List Label) :
    (vs.mapIdx rtVal).map (·.index) = (List.range vs.length).map (· + 1) := by
  rw [map_mapIdx]; exact mapIdx_eq_map_range _ vs

/-! ### lookups -/

/-- membership in `vs.mapIdx rtVal` in the terms the lookup theorems are stated in -/
theorem eq_rtVal_of_unique {vs : List Label} {i : Nat} {l : Label} (hi : vs[i]? = some l) {v : SVal}
    (hv : v ∈ vs.mapIdx rtVal) (hu : ∀ j l', vs[j]? = some l' → v = rtVal j l' → j = i) : v = rtVal i l := by
  obtain ⟨j, l', hj, rfl⟩ := mem_mapIdx_iff.1 hv
  cases hu j l' hj rfl
  rw [hi] at hj
  cases hj
  rfl

/-! ### signature round trips -/

theorem roundTrip_eq : ∀ (xs : List SVal), (xs.map (·.index)).Nodup →
    ∀ (vals : List (Option Nat)), vals.length = xs.length →
    xs.map (fun v => (mapGet ((xs.zip vals).map (fun p => (p.1.index, p.2))) v.index).getD none) = vals
  | [], _, [], _ => rfl
  | x :: xs, hnd, a :: vals, hl => by
    rw [List.map_cons, List.nodup_cons] at hnd
    rw [List.zip_cons_cons, List.map_cons, List.map_cons, mapGet_cons, if_pos rfl]
    refine congrArg (a :: ·) (Eq.trans (List.map_congr_left fun v hv => ?_)
      (roundTrip_eq xs hnd.2 vals (Nat.succ.inj hl)))
    show (mapGet ((x.index, a) :: _) v.index).getD none = _
    rw [mapGet_cons, if_neg fun e : x.index = v.index => hnd.1 (e ▸ List.mem_map_of_mem hv)]

theorem signature_lifted (tys : List Nat) (s : ValueSet)
    (hl : s.lifted = true) (ht : s.typed = tys.mapIdx (fun j t => (t, liftedVal j t))) (structTy : Nat) :
    s.signatureByTypeMap structTy = some tys := by
  unfold ValueSet.signatureByTypeMap
  have hall : s.typed.all (fun p => decide (p.2.index < s.typed.length)) = true := by
    rw [List.all_eq_true, ht, List.length_mapIdx]
    intro p hp
    obtain ⟨j, hj, rfl⟩ := List.mem_mapIdx.1 hp
    exact decide_eq_true hj
  rw [hl, if_neg (by decide), if_pos hall, ht, List.length_mapIdx, ← mapIdx_eq_map_range]
  refine congrArg some (Eq.trans (List.mapIdx_eq_mapIdx_iff.2 fun i hi => ?_) (mapIdx_eq_map id tys) |>.trans
    (List.map_id tys))
  rw [find?_eq_some_of_unique (x := (tys[i], liftedVal i tys[i])) (List.mem_mapIdx.2 ⟨i, hi, rfl⟩)
    (beq_self_eq_true i)]
  · rfl
  · intro y hy hp
    obtain ⟨j, hj, rfl⟩ := List.mem_mapIdx.1 hy
    cases (beq_iff_eq.1 hp : j = i)
    rfl

end ArgMapper
