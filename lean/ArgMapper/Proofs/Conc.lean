import ArgMapper.Model.Conc
import ArgMapper.Proofs.Lists
/-!
# Helper lemmas for C12 / C11 (concurrent clause): the invariant of the locked run-once protocol
-/
namespace ArgMapper.Conc

/-- what the shared state must look like for thread `t` to be at `pc` (locked protocol) -/
def PcOk (st : OState) (t : Nat) : Pc → Prop
  | .start => True
  | .entered => st.lock = some t ∧ ((st.memo = none ∧ st.execs = 0) ∨ (st.memo = some 1 ∧ st.execs = 1))
  | .hit r => st.lock = some t ∧ r = 1 ∧ st.memo = some 1 ∧ st.execs = 1
  | .miss => st.lock = some t ∧ st.memo = none ∧ st.execs = 0
  | .executed r => st.lock = some t ∧ r = 1 ∧ st.memo = none ∧ st.execs = 1
  | .stored r => st.lock = some t ∧ r = 1 ∧ st.memo = some 1 ∧ st.execs = 1
  | .done r => r = 1

def Active (pc : Pc) : Prop := pc ≠ .start ∧ ∀ r, pc ≠ .done r

structure Inv (st : OState) : Prop where
  execs : st.execs ≤ 1
  ok : ∀ t pc, st.pcs[t]? = some pc → PcOk st t pc
  holder : ∀ t, st.lock = some t → ∃ pc, st.pcs[t]? = some pc ∧ Active pc
  free : st.lock = none → (st.memo = none ∧ st.execs = 0) ∨ (st.memo = some 1 ∧ st.execs = 1)

theorem inv_init (n : Nat) : Inv (init n) := by
  refine ⟨by simp [init], ?_, ?_, ?_⟩
  · intro t pc h
    simp only [init, List.getElem?_replicate] at h
    split at h
    · cases h; trivial
    · cases h
  · intro t h; simp [init] at h
  · intro _; simp [init]

theorem lock_of_active {st : OState} {t : Nat} {pc : Pc} (h : PcOk st t pc) (ha : Active pc) :
    st.lock = some t := by
  cases pc with
  | start => exact absurd rfl ha.1
  | done r => exact absurd rfl (ha.2 r)
  | entered => exact h.1
  | hit r => exact h.1
  | miss => exact h.1
  | executed r => exact h.1
  | stored r => exact h.1

theorem idle_of_not_lock {st : OState} {t : Nat} {pc : Pc} (h : PcOk st t pc) (hl : st.lock ≠ some t) :
    pc = .start ∨ pc = .done 1 := by
  cases pc with
  | start => exact .inl rfl
  | done r => exact .inr (congrArg Pc.done h)
  | _ => exact absurd (lock_of_active h ⟨nofun, fun _ => nofun⟩) hl

theorem PcOk_idle {st : OState} {t : Nat} {pc : Pc} (h : pc = .start ∨ pc = .done 1) : PcOk st t pc := by
  rcases h with rfl | rfl
  · trivial
  · exact rfl

theorem inv_move {st : OState} (hi : Inv st) {tid : Nat} (hlt : tid < st.pcs.length)
    (hl : ∀ t, t ≠ tid → st.lock ≠ some t) (st' : OState) (pc' : Pc) (hpcs : st'.pcs = st.pcs.set tid pc')
    (hex : st'.execs ≤ 1) (hok : PcOk st' tid pc')
    (hlock : (st'.lock = some tid ∧ Active pc') ∨
      (st'.lock = none ∧ (st'.memo = none ∧ st'.execs = 0 ∨ st'.memo = some 1 ∧ st'.execs = 1))) :
    Inv st' := by
  refine ⟨hex, ?_, ?_, ?_⟩
  · intro t pc h
    rw [hpcs] at h
    by_cases heq : tid = t
    · subst heq
      rw [List.getElem?_set_self hlt] at h
      cases h; exact hok
    · rw [List.getElem?_set_ne heq] at h
      exact PcOk_idle (idle_of_not_lock (hi.ok t pc h) (hl t (Ne.symm heq)))
  · intro t ht
    rcases hlock with ⟨hl', ha⟩ | ⟨hl', _⟩
    · rw [hl'] at ht; cases ht
      exact ⟨pc', by rw [hpcs, List.getElem?_set_self hlt], ha⟩
    · rw [hl'] at ht; cases ht
  · intro hn
    rcases hlock with ⟨hl', _⟩ | ⟨_, h⟩
    · rw [hl'] at hn; cases hn
    · exact h

theorem inv_step {st : OState} (hi : Inv st) (tid : Nat) : Inv (step true st tid) := by
  have others : st.lock = some tid → ∀ t, t ≠ tid → st.lock ≠ some t :=
    fun hl t hne e => hne (Option.some.inj (e.symm.trans hl))
  have lt : ∀ {pc}, st.pcs[tid]? = some pc → tid < st.pcs.length := fun h => (List.getElem?_eq_some_iff.1 h).1
  have act : ∀ {pc : Pc}, pc ≠ .start → (∀ r, pc ≠ .done r) → Active pc := fun h1 h2 => ⟨h1, h2⟩
  unfold step
  split
  · exact hi
  · next hpc =>
    rw [if_pos rfl]
    split
    · next hnone =>
      exact inv_move hi (lt hpc) (fun t _ e => nomatch hnone.symm.trans e) _ .entered
        rfl hi.execs ⟨rfl, hi.free hnone⟩ (.inl ⟨rfl, act nofun fun _ => nofun⟩)
    · exact hi
  · next hpc =>
    obtain ⟨hl, hm⟩ := hi.ok _ _ hpc
    split
    · next r hr =>
      rcases hm with ⟨h1, _⟩ | ⟨h1, h2⟩
      · rw [h1] at hr; cases hr
      · rw [h1] at hr; cases hr
        exact inv_move hi (lt hpc) (others hl) _ _ rfl hi.execs ⟨hl, rfl, h1, h2⟩
          (.inl ⟨hl, act nofun fun _ => nofun⟩)
    · next hr =>
      rcases hm with ⟨_, h2⟩ | ⟨h1, _⟩
      · exact inv_move hi (lt hpc) (others hl) _ _ rfl hi.execs ⟨hl, hr, h2⟩
          (.inl ⟨hl, act nofun fun _ => nofun⟩)
      · rw [h1] at hr; cases hr
  · next r hpc =>
    obtain ⟨hl, rfl, hm, he⟩ := hi.ok _ _ hpc
    exact inv_move hi (lt hpc) (others hl) _ _ rfl hi.execs rfl (.inr ⟨rfl, .inr ⟨hm, he⟩⟩)
  · next hpc =>
    obtain ⟨hl, hm, he⟩ := hi.ok _ _ hpc
    have he' : st.execs + 1 = 1 := congrArg (· + 1) he
    exact inv_move hi (lt hpc) (others hl) _ _ rfl (Nat.le_of_eq he') ⟨hl, he', hm, he'⟩
      (.inl ⟨hl, act nofun fun _ => nofun⟩)
  · next r hpc =>
    obtain ⟨hl, rfl, _, he⟩ := hi.ok _ _ hpc
    exact inv_move hi (lt hpc) (others hl) _ _ rfl hi.execs ⟨hl, rfl, rfl, he⟩
      (.inl ⟨hl, act nofun fun _ => nofun⟩)
  · next r hpc =>
    obtain ⟨hl, rfl, hm, he⟩ := hi.ok _ _ hpc
    exact inv_move hi (lt hpc) (others hl) _ _ rfl hi.execs rfl (.inr ⟨rfl, .inr ⟨hm, he⟩⟩)
  · exact hi

theorem inv_run (n : Nat) (sched : List Nat) : Inv (run true n sched) :=
  foldl_inv Inv (step true) (fun _ t h => inv_step h t) sched _ (inv_init n)

theorem result_eq_one {st : OState} (hi : Inv st) {i r : Nat} (h : result st i = some r) : r = 1 := by
  unfold result at h
  split at h
  · next r' hpc =>
    cases h
    exact hi.ok _ _ hpc
  · cases h

/-! ### lock discipline -/

theorem common_lock_no_race (l : String) (p q : List Access) (hp : ∀ a ∈ p, a.lock = some l)
    (hq : ∀ a ∈ q, a.lock = some l) : ¬ Race p q := by
  rintro ⟨a, ha, b, hb, _, _, hno⟩
  exact hno ⟨l, hp a ha, hq b hb⟩

end ArgMapper.Conc
