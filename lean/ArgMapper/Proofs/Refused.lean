import ArgMapper.Proofs.ReachSound
import ArgMapper.Proofs.FlowCompat
import ArgMapper.Proofs.CallGraphFuncs
import ArgMapper.Props.C01b
/-!
# An underivable parameter is never fed (helper lemmas for C02)

The invariant of `ReachSound.lean` with the *derivable* origins admissible (`DO`: an origin vertex whose label
is derivable from the supplied labels and the converters) and the target's id forbidden.  A function whose
argument struct can be populated from values with derivable origins has all its parameters satisfiable
(`sat_of_gather`), so it is not the target, and its outputs are derivable again (`hyp_std`).
-/
namespace ArgMapper.Refused
open ArgMapper ExecEqs ReachSound

/-! ### the value store of `callGraph` holds exactly the supplied values -/

section Store
open Generated

def SK (P : Vtx → Prop) (c : CG) : Prop := ∀ p ∈ c.store, P p.1

variable {P : Vtx → Prop}

theorem sk_add {c : CG} (v : Vtx) (h : SK P c) : SK P (c.add v) := h
theorem sk_edge {c : CG} (u v : Vtx) (w : Int) (h : SK P c) : SK P (c.edge u v w) := h

theorem sk_addValued {c : CG} (v : Vtx) (x : Val) (h : SK P c) (hv : P v) : SK P (c.addValued v x) := by
  intro p hp
  rcases mem_mapSet (show p ∈ mapSet c.store v x from hp) with hp' | rfl
  · exact h p hp'
  · exact hv

theorem callGraph_store_inputs (e : TypeEnv) (b : Builder) (funcs : Nat → Option FuncDesc)
    (target : FuncDesc) :
    SK (fun u => u ∈ Prune.inputsList b) (callGraph {} e b funcs target false none).cg := by
  intro p hp
  rw [callGraph_cg, ExactWins.store_prune] at hp
  exact Prune.mem_inputsList.2 ⟨p.2, lastV_store _ _ _ _ _ _ _ hp⟩

end Store

/-! ### derivable origins -/

section Static
variable (e : TypeEnv) (sup : List Label) (convs : List FuncDesc)

def Sat (f : FuncDesc) : Prop :=
  ∀ q ∈ f.input.labels, ∃ o, Deriv e sup convs o ∧ compatB e q o = true

theorem sat_of_gather (ht : ImplTrans e) (ha : ImplAntisym e) {g : AGraph Vtx} (hg : EdgeOK e g)
    (f : FuncDesc) (am : ArgMap) (args : List PVal)
    (ham : AmOK g (fun v => v.isOrigin = true ∧ Deriv e sup convs v.label) am)
    (h : gatherArgs e f am = .ok args) : Sat e sup convs f := by
  intro q hq
  obtain ⟨v, hv, rfl⟩ := List.mem_map.1 hq
  obtain ⟨a, hm, _⟩ := (gatherArgs_eq_ok h).2 v hv
  obtain ⟨⟨hor, hd⟩, hfl⟩ := ham _ _ hm
  refine ⟨a.org.label, hd, ?_⟩
  have := FlowCompat.flow_compat e ht ha a.org v.lab.vertex hor (FlowCompat.Label.vertex_isParam _)
    (FlowCompat.flow_ruleFlow hg hfl)
  rwa [FlowCompat.Label.vertex_label] at this

theorem deriv_outputs (f : FuncDesc) (hf : f ∈ convs) (hsat : Sat e sup convs f) (l : Label)
    (hl : l ∈ f.output.labels) : Deriv e sup convs l := by
  classical
  refine Deriv.output
    (fun q => if h : ∃ o, Deriv e sup convs o ∧ compatB e q o = true then Classical.choose h else default)
    hf hl ?_ ?_
  · intro q hq
    have h := hsat q hq
    simp only [dif_pos h]
    exact (Classical.choose_spec h).1
  · intro q hq
    have h := hsat q hq
    simp only [dif_pos h]
    exact (Classical.choose_spec h).2

theorem edgeP_label (f : FuncDesc) (hk : ValueSet.KeysOK f.output) (v : Vtx)
    (h : (∃ p ∈ f.output.named, v = .value p.1 p.2.lab.ty p.2.lab.sub) ∨
         (∃ p ∈ f.output.typed, v = .out p.2.lab.ty p.2.lab.sub)) :
    v.label ∈ f.output.labels := by
  rcases h with ⟨p, hp, rfl⟩ | ⟨p, hp, rfl⟩
  · obtain ⟨hv, hn, _⟩ := hk.1 p hp
    refine List.mem_map.2 ⟨p.2, hv, ?_⟩
    simp only [Vtx.label, hn]
  · obtain ⟨hv, _, hn⟩ := hk.2 p hp
    refine List.mem_map.2 ⟨p.2, hv, ?_⟩
    simp only [Vtx.label, ← hn]

end Static

section Instance
variable (e : TypeEnv) (b : Builder) (funcs : Nat → Option FuncDesc) (target : FuncDesc) (sup : List Label)

def DO (v : Vtx) : Prop := v.isOrigin = true ∧ Deriv e sup (b.convs.filterMap funcs) v.label

theorem hyp_std (ht : ImplTrans e) (ha : ImplAntisym e)
    (hc : C01.FuncsConsistent (C01.allFuncs b funcs target))
    (hid : ∀ f ∈ C01.allFuncs b funcs target, f.id = target.id → f = target)
    (hids : ∀ f ∈ b.convs.filterMap funcs, ∀ g ∈ b.convs.filterMap funcs,
      f.once = true → g.once = true → f.id = g.id → f.key = g.key)
    (p : Label) (hp : p ∈ target.input.labels)
    (hu : ∀ o, Deriv e sup (b.convs.filterMap funcs) o → compatB e p o = false)
    (c : Ctx) (henv : c.env = e) (hg : EdgeOK e c.g)
    (hgi : ∀ x y, c.g.hasEdge x y = true → CGF.EdgeP (b.convs.filterMap funcs) x y)
    (hfun : ∀ k f, c.funcOf k = some f → f ∈ C01.allFuncs b funcs target) :
    Hyp c (DO e b funcs sup) (· ≠ target.id) (· ∈ C01.allFuncs b funcs target) := by
  refine ⟨hfun, ?_, ?_⟩
  · -- a function whose arguments have derivable origins: it is not the target, whose parameter `p` no derivable
    -- label fits, and what hangs off its vertex are outputs of a converter with its signature, derivable again
    intro f hfF am args ham hargs
    rw [henv] at hargs
    have hsat : Sat e sup (b.convs.filterMap funcs) f :=
      sat_of_gather e sup _ ht ha hg f am args ham hargs
    refine ⟨?_, ?_⟩
    · intro hfid
      have := hid f hfF hfid
      subst this
      obtain ⟨o, ho, hco⟩ := hsat p hp
      rw [hu o ho] at hco
      cases hco
    · intro v hv
      obtain ⟨f', hf', hk', hcase⟩ := hgi v (.func f.key) (AGraph.mem_ins.1 hv)
      have hf'F : f' ∈ C01.allFuncs b funcs target := List.mem_cons_of_mem _ hf'
      obtain ⟨hin, hout⟩ := hc.1 f' hf'F f hfF hk'
      have hsat' : Sat e sup (b.convs.filterMap funcs) f' := by
        intro q hq
        rw [hin] at hq
        exact hsat q hq
      exact ⟨(mayRun_origin c (henv ▸ hg) f).2 v hv,
        deriv_outputs e sup _ f' hf' hsat' _ (edgeP_label f' (hc.2 f' hf'F).2 v hcase)⟩
  · -- two run-once functions with one id: neither is the target, so both are converters, and with one id they have
    -- one vertex
    intro f g hfF hgF hfo hgo hfg hrun
    have hfc : f ∈ b.convs.filterMap funcs := by
      rcases List.mem_cons.1 hfF with rfl | h
      · exact absurd rfl hrun.1
      · exact h
    have hgc : g ∈ b.convs.filterMap funcs := by
      rcases List.mem_cons.1 hgF with rfl | h
      · exact absurd hfg hrun.1
      · exact h
    refine ⟨fun h => hrun.1 (hfg.trans h), ?_⟩
    rw [← hids f hfc g hgc hfo hgo hfg]
    exact hrun.2

/-- **C02, execution level** (in terms of an arbitrary list `sup` containing the supplied labels) -/
theorem refused_core (ht : ImplTrans e) (ha : ImplAntisym e)
    (hc : C01.FuncsConsistent (C01.allFuncs b funcs target))
    (hid : ∀ f ∈ C01.allFuncs b funcs target, f.id = target.id → f = target)
    (hids : ∀ f ∈ b.convs.filterMap funcs, ∀ g ∈ b.convs.filterMap funcs,
      f.once = true → g.once = true → f.id = g.id → f.key = g.key)
    (hsup : ∀ u ∈ Prune.inputsList b, u.label ∈ sup)
    (p : Label) (hp : p ∈ target.input.labels)
    (hu : ∀ o, Deriv e sup (b.convs.filterMap funcs) o → compatB e p o = false)
    (beh : Nat → Nat → List PVal → BehOut) (fuel : Nat) (orc : List OrcItem) :
    (∀ ev ∈ (callWith (C01.stdCtx e b funcs target beh) (callGraph {} e b funcs target false none) target fuel
              (initSt (callGraph {} e b funcs target false none).cg [] orc)).2.log, ev.fid ≠ target.id) ∧
    (∀ res, (callWith (C01.stdCtx e b funcs target beh) (callGraph {} e b funcs target false none) target fuel
              (initSt (callGraph {} e b funcs target false none).cg [] orc)).1 ≠ .ok res) := by
  have henv : (C01.stdCtx e b funcs target beh).env = e := rfl
  have hcg : (C01.stdCtx e b funcs target beh).g = (callGraph {} e b funcs target false none).cg.g := by
    simp only [C01.stdCtx]
  have hg : EdgeOK (C01.stdCtx e b funcs target beh).env (C01.stdCtx e b funcs target beh).g := by
    rw [henv, hcg]; exact C01.callGraph_edges e b funcs target false none
  have hgi : ∀ x y, (C01.stdCtx e b funcs target beh).g.hasEdge x y = true →
      CGF.EdgeP (b.convs.filterMap funcs) x y := by
    rw [hcg]; exact CGF.ginv_callGraph {} e b funcs target none
  have hfun : ∀ k f, (C01.stdCtx e b funcs target beh).funcOf k = some f →
      f ∈ C01.allFuncs b funcs target := by
    intro k f hfo
    simp only [C01.stdCtx] at hfo
    exact List.mem_of_find?_eq_some hfo
  have H := hyp_std e b funcs target sup ht ha hc hid hids p hp hu (C01.stdCtx e b funcs target beh) henv
    (henv ▸ hg) hgi hfun
  have hnar : ∀ t s, (C01.stdCtx e b funcs target beh).g.hasEdge (.arg t s) .root = false := by
    intro t s
    rw [hcg]
    exact C01.callGraph_no_arg_root e b funcs target none t s
  -- every supplied value sits at the vertex `inputsGraph` made for it, and its label is supplied
  have hs : Inv (C01.stdCtx e b funcs target beh) (DO e b funcs sup) (· ≠ target.id)
      (· ∈ C01.allFuncs b funcs target) (initSt (callGraph {} e b funcs target false none).cg [] orc) := by
    refine ⟨initSt_store _ _ [] orc fun q hq => ?_, nofun, nofun⟩
    obtain ⟨x, hx⟩ := Option.isSome_iff_exists.1 (mapGet_isSome_of_mem hq)
    have ho := CGE.callGraph_store_isOrigin e b funcs target false none _ _ hx
    exact ⟨⟨ho, Deriv.supplied (hsup _ (callGraph_store_inputs e b funcs target q hq))⟩, isData_of_isOrigin ho⟩
  obtain ⟨hinv, hok⟩ := callWith_inv H hg (C01.stdCtx_funcsOK e b funcs target beh hc) hnar
    (callGraph {} e b funcs target false none) target List.mem_cons_self rfl fuel _ hs
  exact ⟨fun ev hev => (hinv.log ev hev).2, fun res h => (hok res h).1 rfl⟩

end Instance

/-! ### counterexample to the statement without the hypothesis on run-once ids

Two run-once converters with the same `id` (memo key) but different Go types: `fA : () → A` and
`fB : (A, W) → B`, nothing supplies `W`.  `B` is underivable, yet `fB` is never executed — `callDirect`
finds the memo cell `fA` left under the shared id and `outputValues` writes `fB`'s outputs from it. -/
namespace Cex

def e0 : TypeEnv := { isIface := fun _ => false, impl := fun _ _ => false }
def lA : Label := ⟨"", 1, ""⟩
def lB : Label := ⟨"", 2, ""⟩
def lW : Label := ⟨"", 3, ""⟩
def vs (ls : List Label) : ValueSet :=
  { hasStruct := true, ptrs := 0, values := ls.zipIdx.map (fun p => ⟨p.1, p.2⟩),
    named := [], typed := ls.zipIdx.map (fun p => (p.1.ty, ⟨p.1, p.2⟩)), lifted := false }
def fA : FuncDesc := { id := 7, key := 1, input := ValueSet.nil, output := vs [lA], hasErr := false, once := true }
def fB : FuncDesc := { id := 7, key := 2, input := vs [lA, lW], output := vs [lB], hasErr := false, once := true }
def tgt : FuncDesc := { id := 0, key := 0, input := vs [lA, lB], output := ValueSet.nil, hasErr := false, once := false }
def b0 : Builder := ⟨[], [], [], [], [1, 2], [], none, none, false, 0⟩
def funcs0 : Nat → Option FuncDesc := fun i => if i = 1 then some fA else if i = 2 then some fB else none
def beh0 : Nat → Nat → List PVal → BehOut := fun _ _ _ => { outs := [5], err := none }
def orc0 : List OrcItem :=
  [ { target := .func 0, missing := [.arg 1 "", .arg 2 ""],
      paths := [[.root, .func 1, .out 1 "", .arg 1 ""],
                [.root, .func 1, .out 1 "", .arg 1 "", .func 2, .out 2 "", .arg 2 ""]] },
    { target := .func 1, missing := [], paths := [] },
    { target := .func 1, missing := [], paths := [] },
    { target := .func 2, missing := [], paths := [] } ]

theorem convs_eq : b0.convs.filterMap funcs0 = [fA, fB] := rfl

theorem deriv_only_A (sup : List Label) (hs : sup = []) (o : Label) (h : Deriv e0 sup [fA, fB] o) : o = lA := by
  induction h with
  | supplied h => subst hs; cases h
  | @output f l w hf hl _ hc ih =>
    simp only [List.mem_cons, List.not_mem_nil, or_false] at hf
    rcases hf with rfl | rfl
    · have : l ∈ [lA] := hl
      simpa using this
    · have hW : lW ∈ fB.input.labels := by decide
      have h1 := ih lW hW
      have h2 := hc lW hW
      rw [h1] at h2
      exact absurd h2 (by decide)

theorem underivable_B (sup : List Label) (hs : sup = []) :
    ∀ o, Deriv e0 sup (b0.convs.filterMap funcs0) o → compatB e0 lB o = false := by
  intro o h
  rw [convs_eq] at h
  rw [deriv_only_A sup hs o h]
  decide

theorem consistent : C01.FuncsConsistent (C01.allFuncs b0 funcs0 tgt) := by
  unfold C01.FuncsConsistent ValueSet.KeysOK; decide +kernel

theorem target_id : ∀ f ∈ C01.allFuncs b0 funcs0 tgt, f.id = tgt.id → f = tgt := by
  have hl : C01.allFuncs b0 funcs0 tgt = [tgt, fA, fB] := rfl
  rw [hl]
  intro f hf hid
  simp only [List.mem_cons, List.not_mem_nil, or_false] at hf
  rcases hf with rfl | rfl | rfl
  · rfl
  · exact absurd hid (by decide)
  · exact absurd hid (by decide)

theorem run :
    ((callWith (C01.stdCtx e0 b0 funcs0 tgt beh0) (callGraph {} e0 b0 funcs0 tgt false none) tgt 5
        (initSt (callGraph {} e0 b0 funcs0 tgt false none).cg [] orc0)).2.log.map (·.fid)) = [7, 0] ∧
    (callWith (C01.stdCtx e0 b0 funcs0 tgt beh0) (callGraph {} e0 b0 funcs0 tgt false none) tgt 5
        (initSt (callGraph {} e0 b0 funcs0 tgt false none).cg [] orc0)).1 = .ok { outs := [5], err := none } := by
  decide +kernel

end Cex

end ArgMapper.Refused
