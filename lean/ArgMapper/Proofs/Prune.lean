import ArgMapper.Spec.Flow
import ArgMapper.Spec.Match
import ArgMapper.Proofs.CallGraphEdges
import ArgMapper.Proofs.FlowCompat
import ArgMapper.Props.C20
/-!
# Helper lemmas for C13: what `prune` keeps, and what that says about the unsatisfied list

`prune` keeps the root and what its reverse DFS reports; `kept_iff` says which vertices these are in
terms of the graph itself.  A parameter vertex that is kept can be fed from a supplied value or a
converter's output (`kept_compat`); the unsatisfied list names the parameters whose vertex is not kept.
-/
set_option linter.unusedSectionVars false
namespace ArgMapper
namespace Prune
open Generated Traverse ExactWins

theorem isData_of_isOut {v : Vtx} (h : v.isOut = true) : v.isData = true := by
  simp [Vtx.isData, h]
theorem isData_of_isValue {v : Vtx} (h : v.isValue = true) : v.isData = true := by
  simp [Vtx.isData, h]
theorem isData_of_isArg {v : Vtx} (h : v.isArg = true) : v.isData = true := by
  simp [Vtx.isData, h]

/-! ### what `prune` keeps -/

/-- the vertices whose dependents the pruning traversal looks at: the root, and every dependent of such
a vertex other than the target -/
inductive Expl (g : AGraph Vtx) (t : Vtx) : Vtx → Prop
  | start : Expl g t .root
  | step {u w} : Expl g t u → g.hasEdge w u = true → w ≠ .root → w ≠ t → Expl g t w

theorem expl_iff (g : AGraph Vtx) (t u : Vtx) :
    C20.Explored g.reverse (fun v => if v = t then .skip else .descend) .root u ↔ Expl g t u := by
  constructor
  · intro h
    induction h with
    | start => exact .start
    | step _ he hne hd ih =>
      rw [AGraph.hasEdge_reverse] at he
      refine .step ih he hne ?_
      rintro rfl
      rw [if_pos rfl] at hd
      cases hd
  · intro h
    induction h with
    | start => exact .start
    | step _ he hne ht ih => exact .step ih ((AGraph.hasEdge_reverse _ _ _).trans he) hne (if_neg ht)

theorem kept_iff (c : CG) (hwf : c.g.WF) (hroot : Vtx.root ∈ c.g.verts) (t x : Vtx) :
    Kept c t x ↔ x = .root ∨ ∃ u, Expl c.g t u ∧ c.g.hasEdge x u = true := by
  have hlog := (C20.dfs_exact _ (AGraph.WF_reverse _ hwf) (fun v => if v = t then .skip else .descend)
    .root hroot (by intro w _; split <;> simp)).2.2 x
  unfold Kept
  rw [hlog]
  constructor
  · rintro (h | ⟨_, u, hu, he⟩)
    · exact .inl h
    · exact .inr ⟨u, (expl_iff _ _ _).1 hu, (AGraph.hasEdge_reverse _ _ _).symm.trans he⟩
  · rintro (h | ⟨u, hu, he⟩)
    · exact .inl h
    · by_cases hx : x = .root
      · exact .inl hx
      · exact .inr ⟨hx, u, (expl_iff _ _ _).2 hu, (AGraph.hasEdge_reverse _ _ _).trans he⟩

theorem expl_of_kept {c : CG} (hwf : c.g.WF) (hroot : Vtx.root ∈ c.g.verts) {t x : Vtx}
    (hx : Kept c t x) (hxt : x ≠ t) : Expl c.g t x := by
  by_cases hr : x = .root
  · rw [hr]; exact .start
  · rcases (kept_iff c hwf hroot t x).1 hx with h | ⟨u, hu, he⟩
    · exact absurd h hr
    · exact .step hu he hr hxt

theorem kept_of_expl {c : CG} (hwf : c.g.WF) (hroot : Vtx.root ∈ c.g.verts) {t u : Vtx}
    (h : Expl c.g t u) : Kept c t u := by
  cases h with
  | start => exact .inl rfl
  | step hu he _ _ => exact (kept_iff c hwf hroot t u).2 (.inr ⟨_, hu, he⟩)

end Prune

namespace ExactWins

theorem kept_of_root_edge (c : CG) (hwf : c.g.WF) (hroot : Vtx.root ∈ c.g.verts) (t x : Vtx)
    (hx : c.g.hasEdge x .root = true) : Kept c t x :=
  (Prune.kept_iff c hwf hroot t x).2 (.inr ⟨.root, .start, hx⟩)

theorem kept_step (c : CG) (hwf : c.g.WF) (hroot : Vtx.root ∈ c.g.verts) (t x y : Vtx)
    (hx : Kept c t x) (hxt : x ≠ t) (hy : c.g.hasEdge y x = true) : Kept c t y :=
  (Prune.kept_iff c hwf hroot t y).2 (.inr ⟨x, Prune.expl_of_kept hwf hroot hx hxt, hy⟩)

theorem kept_pred (c : CG) (hwf : c.g.WF) (hroot : Vtx.root ∈ c.g.verts) (t y : Vtx)
    (hk : Kept c t y) (hy : y ≠ .root) : ∃ u, Kept c t u ∧ c.g.hasEdge y u = true := by
  rcases (Prune.kept_iff c hwf hroot t y).1 hk with h | ⟨u, hu, he⟩
  · exact absurd h hy
  · exact ⟨u, Prune.kept_of_expl hwf hroot hu, he⟩

theorem params_kept (var : Variant) (e : TypeEnv) (b : Builder) (funcs : Nat → Option FuncDesc)
    (target : FuncDesc) (rd : Bool) (filter : Option Filter)
    (hsat : (callGraph var e b funcs target rd filter).unsat = []) (v : SVal)
    (hv : v ∈ target.input.values) :
    (callGraph var e b funcs target rd filter).cg.g.hasEdge (.func target.key) v.lab.vertex = true := by
  have hreq := RedefC.funcGraph_req_edge c0 target false v hv
  have hwf := lastV_wf var e b funcs target rd filter
  have hroot := lastV_root var e b funcs target rd filter
  have h1 : (lastV var e b funcs target rd filter).g.hasEdge (.func target.key) v.lab.vertex = true :=
    ((grow_c2 var e b funcs target rd filter).trans (grow_lastV_c2 var e b funcs target rd filter)).hasEdge hreq
  rw [ArgMapper.callGraph_unsat, List.map_eq_nil_iff, List.filter_eq_nil_iff] at hsat
  have k1 : Kept (lastV var e b funcs target rd filter) (.func target.key) v.lab.vertex := by
    have := hsat _ (AGraph.mem_outs.2 hreq)
    exact ((prune_verts _ _ _).1 (by simpa [AGraph.hasVertex] using this)).2
  have hne : v.lab.vertex ≠ .func target.key := by
    unfold Label.vertex; split <;> exact fun h => by cases h
  obtain ⟨w, hw⟩ := AGraph.hasEdge_iff_weight.1 h1
  rw [ArgMapper.callGraph_cg]
  exact AGraph.hasEdge_iff_weight.2 ⟨w, (prune_weight _ hwf _ _ _ _).2
    ⟨hw, kept_step _ hwf hroot _ _ _ k1 hne h1, k1⟩⟩

end ExactWins

namespace Prune
open Generated ExactWins

/-! ### the unsatisfied list -/

section
variable (e : TypeEnv) (b : Builder) (funcs : Nat → Option FuncDesc) (target : FuncDesc)

theorem mem_unsat_iff (p : Label) :
    p ∈ (callGraph {} e b funcs target false none).unsat ↔
      ∃ r ∈ (c1 target).g.outs (.func target.key),
        r ∉ (prune (pre e b funcs target) (.func target.key)).g.verts ∧ r.label = p := by
  rw [ExactWins.callGraph_unsat]
  simp only [List.mem_map, List.mem_filter, AGraph.hasVertex, Bool.not_eq_true',
    decide_eq_false_iff_not]
  constructor
  · rintro ⟨r, ⟨h1, h2⟩, h3⟩; exact ⟨r, h1, h2, h3⟩
  · rintro ⟨r, h1, h2, h3⟩; exact ⟨r, ⟨h1, h2⟩, h3⟩

theorem unsat_param (p : Label) (hp : p ∈ (callGraph {} e b funcs target false none).unsat) :
    p ∈ target.input.labels ∧
      p.vertex ∉ (prune (pre e b funcs target) (.func target.key)).g.verts := by
  obtain ⟨r, hr, hnk, hl⟩ := (mem_unsat_iff e b funcs target p).1 hp
  rcases (c1_hasEdge target (AGraph.mem_outs.1 hr)).2 with rfl | ⟨val, hval, rfl⟩
  · exact absurd ((prune_verts _ _ _).2 ⟨pre_root e b funcs target, .inl rfl⟩) hnk
  · rw [FlowCompat.Label.vertex_label] at hl
    subst hl
    exact ⟨List.mem_map.2 ⟨val, hval, rfl⟩, hnk⟩

theorem param_unsat (p : Label) (hp : p ∈ target.input.labels)
    (hnk : p.vertex ∉ (prune (pre e b funcs target) (.func target.key)).g.verts) :
    p ∈ (callGraph {} e b funcs target false none).unsat := by
  obtain ⟨val, hval, rfl⟩ := List.mem_map.1 hp
  exact (mem_unsat_iff e b funcs target _).2
    ⟨_, AGraph.mem_outs.2 (RedefC.funcGraph_req_edge c0 target false val hval), hnk,
      FlowCompat.Label.vertex_label _⟩

theorem inputs_kept (u : Vtx) (hu : u ∈ inputsList b) :
    u ∈ (prune (pre e b funcs target) (.func target.key)).g.verts := by
  have he := ExactWins.inputs_edge_root e b funcs target u hu
  have hwf := pre_wf e b funcs target
  exact (prune_verts _ _ _).2 ⟨(AGraph.hasEdge_verts hwf he).1,
    kept_of_root_edge _ hwf (pre_root e b funcs target) _ u he⟩

end

/-! ### whatever is kept can be fed -/

def Avail (b : Builder) (funcs : Nat → Option FuncDesc) (l : Label) : Prop :=
  l ∈ (inputsList b).map Vtx.label ∨
  ∃ fid ∈ b.convs, ∃ f, funcs fid = some f ∧ l ∈ f.output.labels

def RH (b : Builder) (funcs : Nat → Option FuncDesc) : Vtx → Vtx → Prop := fun u v =>
  (v = .root → u.isFunc = true ∨ (u.isOrigin = true ∧ Avail b funcs u.label)) ∧
  (∀ k, v = .func k → u.isOrigin = true ∧ Avail b funcs u.label)

theorem gen_RH (e : TypeEnv) (b : Builder) (funcs : Nat → Option FuncDesc) (target : FuncDesc)
    (hck : ∀ fid ∈ b.convs, ∀ f, funcs fid = some f → ValueSet.KeysOK f.output) {x y : Vtx} {w : Int}
    (h : Gen (rulesOf {} e b funcs target false none) x y w) : RH b funcs x y := by
  cases h with
  | funcRoot f => exact ⟨fun _ => .inl rfl, fun k h => nomatch h⟩
  | req f val =>
    refine ⟨fun h => absurd h (vertex_ne_root _), fun k h => ?_⟩
    have := FlowCompat.Label.vertex_isParam val.lab
    rw [h] at this
    rcases this with h | h <;> cases h
  | input x hx =>
    exact ⟨fun _ => .inr ⟨CGE.inputsList_isOrigin b _ hx, .inl (List.mem_map.2 ⟨_, hx, rfl⟩)⟩,
      fun k h => nomatch h⟩
  | outNamed f p hf hp =>
    obtain ⟨fid, hfid, hf⟩ := List.mem_filterMap.1 hf
    obtain ⟨hv, hn, _⟩ := (hck fid hfid f hf).1 p hp
    refine ⟨fun h => (nomatch h), fun _ _ => ⟨rfl, .inr ⟨fid, hfid, f, hf, List.mem_map.2 ⟨p.2, hv, ?_⟩⟩⟩⟩
    simp only [Vtx.label, hn]
  | outTyped f p hf hp =>
    obtain ⟨fid, hfid, hf⟩ := List.mem_filterMap.1 hf
    obtain ⟨hv, _, hn⟩ := (hck fid hfid f hf).2 p hp
    refine ⟨fun h => (nomatch h), fun _ _ => ⟨rfl, .inr ⟨fid, hfid, f, hf, List.mem_map.2 ⟨p.2, hv, ?_⟩⟩⟩⟩
    simp only [Vtx.label, ← hn]
  | redefine v h => cases h
  | _ => exact ⟨fun h => (nomatch h), fun k h => nomatch h⟩

theorem flow_of_expl (e : TypeEnv) (b : Builder) (funcs : Nat → Option FuncDesc) (g : AGraph Vtx)
    (hok : EdgeOK e g) (hrh : ∀ x y, g.hasEdge x y = true → RH b funcs x y) (t : Vtx) (u : Vtx)
    (hu : Expl g t u) : ∀ x, x.isData = true → g.hasEdge x u = true →
      ∃ o, o.isOrigin = true ∧ Avail b funcs o.label ∧ RuleFlow e o x := by
  induction hu with
  | start =>
    intro x hx he
    rcases (hrh _ _ he).1 rfl with hf | ⟨ho, ha⟩
    · cases x <;> simp [Vtx.isData, Vtx.isValue, Vtx.isArg, Vtx.isOut, Vtx.isFunc] at hx hf
    · exact ⟨x, ho, ha, .here hx⟩
  | @step u w _ hwu hnr _ ih =>
    intro x hx he
    by_cases hwd : w.isData = true
    · obtain ⟨o, ho, ha, hfl⟩ := ih w hwd hwu
      exact ⟨o, ho, ha, .step hx (hok _ _ he) hfl⟩
    · cases w with
      | root => exact absurd rfl hnr
      | func k =>
        obtain ⟨ho, ha⟩ := (hrh _ _ he).2 k rfl
        exact ⟨x, ho, ha, .here hx⟩
      | value _ _ _ => exact absurd rfl hwd
      | arg _ _ => exact absurd rfl hwd
      | out _ _ => exact absurd rfl hwd

theorem kept_compat (e : TypeEnv) (ht : ImplTrans e) (ha : ImplAntisym e) (b : Builder)
    (funcs : Nat → Option FuncDesc) (target : FuncDesc)
    (hck : ∀ fid ∈ b.convs, ∀ f, funcs fid = some f → ValueSet.KeysOK f.output) (p : Label)
    (hk : p.vertex ∈ (prune (pre e b funcs target) (.func target.key)).g.verts) :
    ∃ l, Avail b funcs l ∧ compatB e p l = true := by
  rw [prune_verts] at hk
  have hwf := pre_wf e b funcs target
  rcases (kept_iff _ hwf (pre_root e b funcs target) _ _).1 hk.2 with h | ⟨u, hu, he⟩
  · exact absurd h (vertex_ne_root p)
  · have hpd : p.vertex.isData = true := by
      rcases FlowCompat.Label.vertex_isParam p with h | h <;> simp [Vtx.isData, h]
    have hok : EdgeOK e (pre e b funcs target).g := by
      rw [pre_eq_lastV]; exact CGE.lastV_edgeOK {} rfl rfl e b funcs target false none
    have hrh : ∀ x y, (pre e b funcs target).g.hasEdge x y = true → RH b funcs x y := by
      intro x y h
      obtain ⟨w, hw⟩ := AGraph.hasEdge_iff_weight.1 h
      rw [pre_eq_lastV] at hw
      exact gen_RH e b funcs target hck (lastV_weight _ _ _ _ _ _ _ hw)
    obtain ⟨o, ho, hav, hfl⟩ := flow_of_expl e b funcs _ hok hrh _ u hu _ hpd he
    have := FlowCompat.flow_compat e ht ha o p.vertex ho (FlowCompat.Label.vertex_isParam p) hfl
    rw [FlowCompat.Label.vertex_label] at this
    exact ⟨o.label, hav, this⟩

end Prune
end ArgMapper
