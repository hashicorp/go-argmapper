import ArgMapper.Spec.Flow
import ArgMapper.Proofs.GraphBasics
import ArgMapper.Proofs.ReachPlan
/-!
# What the edge rules say of a graph that obeys them

The kinds of vertices a rule joins (`kindOK_of_rule`), the two rules whose shape the walk depends on, and the
fact that makes the walk's copies type sound (`rule_assignable`).  Declared in `ArgMapper.ReachSound`, the
namespace of their first user.
-/
namespace ArgMapper.ReachSound
open ArgMapper ReachEqs

def kindOK : Vtx → Vtx → Bool
  | .func _, .value .. => true
  | .func _, .arg .. => true
  | .func _, .root => true
  | .value .., .root => true
  | .value .., .func _ => true
  | .value .., .out .. => true
  | .value .., .value .. => true
  | .out .., .root => true
  | .out .., .func _ => true
  | .out .., .out .. => true
  | .arg .., .value .. => true
  | .arg .., .out .. => true
  | .arg .., .root => true
  | _, _ => false

theorem kindOK_of_rule {e : TypeEnv} {x y : Vtx} (h : EdgeRule e x y) : kindOK x y = true := by
  cases h with
  | funcReq k _ hx => rcases hx with h | h | h <;> cases y <;> first | rfl | cases h
  | inputRoot _ hx => rcases hx with h | h <;> cases x <;> first | rfl | cases h
  | outputFunc _ k hx => rcases hx with h | h <;> cases x <;> first | rfl | cases h
  | redefineRoot _ hx => rcases hx with h | h <;> cases x <;> first | rfl | cases h
  | _ => rfl

theorem assignable_trans_impl (e : TypeEnv) (ht : ImplTrans e) (a t' i : Nat)
    (h1 : e.assignable a t' = true) (hi : e.isIface i = true) (h2 : e.impl t' i = true) :
    e.assignable a i = true := by
  unfold TypeEnv.assignable at h1 ⊢
  simp only [Bool.or_eq_true, beq_iff_eq, Bool.and_eq_true] at h1 ⊢
  rcases h1 with rfl | ⟨_, h1⟩
  · exact Or.inr ⟨hi, h2⟩
  · exact Or.inr ⟨hi, ht _ _ _ h1 h2⟩

theorem rule_value_value {e : TypeEnv} {n : String} {t : Nat} {x : String} {n' : String} {t' : Nat} {x' : String}
    (h : EdgeRule e (.value n t x) (.value n' t' x')) : n' = n ∧ t' = t ∧ x = "" ∧ x' ≠ "" := by
  cases h with
  | valueValue _ _ _ hs => exact ⟨rfl, rfl, rfl, hs⟩

theorem rule_assignable {e : TypeEnv} (ht : ImplTrans e) {v u : Vtx} (h : EdgeRule e v u) (hv : v.isData = true)
    (hu : u.isData = true) {a : Nat} (ha : e.assignable a u.ty = true) : e.assignable a v.ty = true := by
  cases h with
  | funcReq => cases hv
  | inputRoot => cases hu
  | outputFunc => cases hu
  | redefineRoot => cases hu
  | ifaceOut i s t' s' hi him _ => exact assignable_trans_impl e ht _ _ _ ha hi him
  | _ => exact ha

theorem no_edge_from_root {e : TypeEnv} {g : AGraph Vtx} (hedge : EdgeOK e g) (u : Vtx) :
    g.hasEdge .root u = false := by
  cases h : g.hasEdge .root u with
  | false => rfl
  | true =>
    have := kindOK_of_rule (hedge _ _ h)
    cases u <;> cases this

theorem missing_kind {c : Ctx} (hg : EdgeOK c.env c.g) {s : CallSt} {k : Nat} {cur : Vtx}
    (h : cur ∈ missing c s (.func k)) : cur.isValue = true ∨ cur.isArg = true := by
  obtain ⟨hout, hnr, _⟩ := mem_missing.1 h
  have hk := kindOK_of_rule (hg _ _ (AGraph.mem_outs.1 hout))
  cases cur with
  | root => exact absurd rfl hnr
  | value => exact .inl rfl
  | arg => exact .inr rfl
  | out => cases hk
  | func => cases hk

end ArgMapper.ReachSound
