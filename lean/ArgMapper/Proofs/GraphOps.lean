import ArgMapper.Proofs.GraphPush
import ArgMapper.Proofs.GraphRep
/-!
# Every operation preserves the simulation invariant (C19)
-/
namespace ArgMapper
namespace GraphSpec
variable {α : Type} [DecidableEq α]
open AGraph GraphImpl
variable {w : World α} {s : SpecWorld α}

theorem sim_new (hs : Sim w s) :
    Sim (newGraph w) (specStep s .new) := by
  rw [specStep_new]
  refine hs.push [] [] nones (by simp [newGraph, nones]) _ _ _ (by simp) (Or.inl rfl) ?_
    (fun k hk hc => absurd hc (Nat.ne_of_lt (hs.cok k hk)))
    (fun k hk _ => (Disj.nones_left _).symm)
  rw [getD_append_len]
  exact RepC.empty false

theorem sim_copy (hs : Sim w s) {h : Nat} (hlt : h < s.handles.length) :
    Sim (copy w h) (specStep s (.copy h)) := by
  rw [specStep_copy]
  refine hs.push [w.getAdj (w.handle h).out, w.getAdj (w.handle h).inn] [w.getHash (w.handle h).hash]
    ⟨some w.adj.length, some (w.adj.length + 1), some w.hashes.length⟩ rfl _ _ _ (by simp) ?_ ?_
    (fun k hk hc => absurd hc (Nat.ne_of_lt (hs.cok k hk)))
    (fun k hk _ => (Disj.fresh (hs.shape k hk) (Nat.le_refl _) (Nat.le_succ _) (Nat.le_refl _)).symm)
  · refine Or.inr ⟨_, _, _, rfl, ?_, ?_, ?_, ?_⟩ <;> simp
  · simp only [World.getAdj, World.getHash, getD_append_len, getD_append_len_succ]
    exact hs.repC hlt

theorem sim_reverse (hs : Sim w s) {h : Nat} (hlt : h < s.handles.length) :
    Sim (reverse true w h) (specStep s (.reverse h)) := by
  obtain ⟨hs1, a, b, c, hgv, hab⟩ := hs.init hlt
  generalize hw1 : init w h = w1 at hs1 hgv
  rw [specStep_reverse]
  -- the new handle is the old one with the adjacency objects exchanged, as its orientation is
  have hcan : gswap (!(s.handle h).2) (gswap true (w1.handle h)) = canon w1 s h := by
    unfold canon; cases (s.handle h).2 <;> rfl
  refine hs1.push [] [] (gswap true (w1.handle h))
    (by simp [GraphImpl.reverse, hw1, gswap]) _ _ _
    (by simpa using hs.cok h hlt) ?_ ?_
    (fun k hk hc => ⟨?_, (hs1.same k h hk hlt hc).trans hcan.symm⟩)
    (fun k hk hc => (hs1.diff k h hk hlt hc).gswap_right true)
  · exact ((hs1.shape h hlt).gswap true).mono (by simp [GraphImpl.reverse, hw1])
      (by simp [GraphImpl.reverse, hw1])
  · simpa [GraphImpl.reverse, hw1, gswap, World.getAdj, World.getHash, SpecWorld.cls]
      using (hs1.repC hlt).swap
  · by_cases hkh : k = h
    · rw [hkh, hgv]; exact nofun
    · exact hs1.shared k h hk hlt hkh hc

/-! ### mutators on an initialised handle -/

def addCore (w : World α) (h : Nat) (v : α) (tag : Nat) : World α :=
  let gv := w.handle h
  if (aget (w.getAdj gv.out) v).isSome then w
  else
    let w := w.setAdj gv.out (aset (w.getAdj gv.out) v [])
    let w := w.setAdj gv.inn (aset (w.getAdj gv.inn) v [])
    w.setHash gv.hash (aset (w.getHash gv.hash) v tag)

theorem add_eq (w0 : World α) (h : Nat) (v : α) (tag : Nat) :
    add w0 h v tag = addCore (init w0 h) h v tag := rfl

theorem sim_addCore (hs : Sim w s) {h : Nat} (hlt : h < s.handles.length)
    {a b c : Nat} (hgv : w.handle h = ⟨some a, some b, some c⟩) (v : α) (tag : Nat) :
    Sim (addCore w h v tag) (specStep s (.add h v tag)) := by
  obtain ⟨_, _, hab, _⟩ := hs.inRange hlt hgv
  have hr := hs.repC hlt
  rw [hgv] at hr
  simp only [World.getAdj, World.getHash] at hr
  unfold addCore
  simp only [hgv, specStep, World.getAdj]
  by_cases hv : v ∈ (s.cls h).g.verts
  · rw [if_pos ((hr.out.keys v).2 hv), if_pos hv]; exact hs
  · rw [if_neg (fun e => hv ((hr.out.keys v).1 e)), if_neg hv]
    refine hs.write hlt hgv (repC_add hr v tag hv) rfl ?_ rfl
    simp only [World.setAdj, World.setHash, getD_set, hab, false_and, if_false]

def addowCore (w : World α) (h : Nat) (v : α) (tag : Nat) : World α :=
  let gv := w.handle h
  let w := w.setHash gv.hash (aset (w.getHash gv.hash) v tag)
  if (aget (w.getAdj gv.out) v).isSome then w
  else
    let w := w.setAdj gv.out (aset (w.getAdj gv.out) v [])
    w.setAdj gv.inn (aset (w.getAdj gv.inn) v [])

theorem addow_eq (w0 : World α) (h : Nat) (v : α) (tag : Nat) :
    addOverwrite w0 h v tag = addowCore (init w0 h) h v tag := rfl

theorem sim_addowCore (hs : Sim w s) {h : Nat} (hlt : h < s.handles.length)
    {a b c : Nat} (hgv : w.handle h = ⟨some a, some b, some c⟩) (v : α) (tag : Nat) :
    Sim (addowCore w h v tag) (specStep s (.addow h v tag)) := by
  obtain ⟨_, _, hab, _⟩ := hs.inRange hlt hgv
  have hr := hs.repC hlt
  rw [hgv] at hr
  simp only [World.getAdj, World.getHash] at hr
  unfold addowCore
  simp only [hgv, specStep, World.getAdj, World.setHash]
  by_cases hv : v ∈ (s.cls h).g.verts
  · rw [if_pos ((hr.out.keys v).2 hv)]
    refine hs.write hlt hgv (repC_addow_present hr v tag hv) rfl ?_ rfl
    rw [set_getD_self, set_getD_self]
  · rw [if_neg (fun e => hv ((hr.out.keys v).1 e))]
    refine hs.write hlt hgv (repC_add hr v tag hv) rfl ?_ rfl
    simp only [World.setAdj, getD_set, hab, false_and, if_false]

def edgeCore (w : World α) (h : Nat) (u v : α) (wt : Int) : Except Panic (World α) × World α :=
  let gv := w.handle h
  match aget (w.getAdj gv.out) u with
  | none => (.error .nilMap, w)
  | some inner =>
    let w1 := w.setAdj gv.out (aset (w.getAdj gv.out) u (aset inner v wt))
    match aget (w1.getAdj gv.inn) v with
    | none => (.error .nilMap, w1)
    | some inner2 => (.ok (w1.setAdj gv.inn (aset (w1.getAdj gv.inn) v (aset inner2 u wt))), w1)

theorem edge_eq (w0 : World α) (h : Nat) (u v : α) (wt : Int) :
    addEdge w0 h u v wt = edgeCore (init w0 h) h u v wt := by
  -- both sides unfolded first: comparing them as they stand has the checker unfold `init` early
  unfold GraphImpl.addEdge edgeCore
  rfl

theorem sim_edgeCore (hs : Sim w s) {h : Nat} (hlt : h < s.handles.length)
    {a b c : Nat} (hgv : w.handle h = ⟨some a, some b, some c⟩) (u v : α) (wt : Int)
    (hp : u ∈ (s.cls h).g.verts ∧ v ∈ (s.cls h).g.verts) :
    ∃ w' w1, edgeCore w h u v wt = (.ok w', w1) ∧ Sim w' (specStep s (.edge h u v wt)) := by
  obtain ⟨_, _, hab, _⟩ := hs.inRange hlt hgv
  have hr := hs.repC hlt
  rw [hgv] at hr
  simp only [World.getAdj, World.getHash] at hr
  obtain ⟨x, hx⟩ := Option.isSome_iff_exists.1 ((hr.out.keys u).2 hp.1)
  obtain ⟨y, hy⟩ := Option.isSome_iff_exists.1 ((hr.inn.keys v).2 hp.2)
  unfold edgeCore
  simp only [hgv, World.getAdj, World.setAdj, hx, getD_set, hab, false_and, if_false, hy]
  refine ⟨_, _, rfl, ?_⟩
  rw [specStep_mut s (op := .edge h u v wt) rfl, mutCls, if_pos hp]
  exact hs.write hlt hgv (repC_edge hr u v wt x y hx hy) rfl rfl (set_getD_self _ _ _).symm

def redgeCore (w : World α) (h : Nat) (u v : α) : World α :=
  let gv := w.handle h
  let w := w.setAdj gv.out (delInner (w.getAdj gv.out) u v)
  w.setAdj gv.inn (delInner (w.getAdj gv.inn) v u)

theorem redge_eq (w0 : World α) (h : Nat) (u v : α) :
    removeEdge w0 h u v = redgeCore (init w0 h) h u v := rfl

theorem sim_redgeCore (hs : Sim w s) {h : Nat} (hlt : h < s.handles.length)
    {a b c : Nat} (hgv : w.handle h = ⟨some a, some b, some c⟩) (u v : α) :
    Sim (redgeCore w h u v) (specStep s (.redge h u v)) := by
  obtain ⟨_, _, hab, _⟩ := hs.inRange hlt hgv
  have hr := hs.repC hlt
  rw [hgv] at hr
  simp only [World.getAdj, World.getHash] at hr
  unfold redgeCore
  simp only [hgv, World.getAdj, World.setAdj, getD_set, hab, false_and, if_false]
  rw [specStep_mut s (op := .redge h u v) rfl]
  exact hs.write hlt hgv (repC_redge hr u v) rfl rfl (set_getD_self _ _ _).symm

theorem sim_remove (hs : Sim w s) {h : Nat} (hlt : h < s.handles.length)
    (v : α) : Sim (remove w h v) (specStep s (.remove h v)) := by
  have hr := hs.repC hlt
  rcases hs.shape h hlt with e | ⟨a, b, c, hgv, ha, hb, hab, hc⟩
  · have e1 : remove w h v = w := by
      unfold GraphImpl.remove
      simp [e, nones, World.setAdj, World.setHash]
    rw [e1]
    simp only [specStep]
    refine hs.update hlt _ rfl rfl rfl (fun _ _ _ => rfl) (fun _ _ => rfl) ?_
    rw [e] at hr ⊢
    exact repC_remove hr v
  · rw [hgv] at hr
    simp only [World.getAdj, World.getHash] at hr
    have hba : ¬ b = a := fun e => hab e.symm
    unfold GraphImpl.remove
    simp only [hgv, World.getAdj, World.setAdj, World.setHash, World.getHash, getD_set, List.length_set,
      hab, hba, ha, hb, and_self, if_true, false_and, if_false, specStep]
    refine hs.write hlt hgv (repC_remove hr v) rfl ?_ rfl
    rw [List.set_set, List.set_comm _ _ hba, List.set_set]

end GraphSpec
end ArgMapper
