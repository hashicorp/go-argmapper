import ArgMapper.Proofs.TarjanInv
/-!
# Tarjan's SCC algorithm: the loop over the successors of a vertex

`FoldInv` is the invariant of the `foldl (sccEdge …)` in `sccVisit … x a`, where `done` is the list of
successors already processed.
-/
namespace ArgMapper
namespace Tarjan
open AGraph Traverse TraverseReach
variable {α : Type} [DecidableEq α]
variable {g : AGraph α} {n : Nat} {x : α} {a : SccAcct α} {gr : List α}

/-- the contract of the recursive calls -/
def RecSpec (g : AGraph α) (n : Nat) : Prop :=
  ∀ gr v a, Pre g gr n v a → Post g gr v a (sccVisit g n v a)

structure FoldInv (g : AGraph α) (n : Nat) (x : α) (a : SccAcct α) (gr : List α) (done : List α)
    (st : SccAcct α × Nat) : Prop where
  inv : Inv g (x :: gr) st.1
  ext : Ext (push x a) st.1
  fuel : whiteCount g st.1 < n
  le : st.2 ≤ a.next
  reach : ∃ y ∈ st.1.stack, st.2 = idxOf st.1 y ∧ Reach g x y
  done_vis : ∀ t ∈ done, idxOf st.1 t ≠ 0
  done_edge : ∀ t ∈ done, t ∈ a.stack → st.2 ≤ idxOf st.1 t
  xedge : ∀ p ∈ st.1.stack, p ∉ x :: a.stack → ∀ y ∈ a.stack, g.hasEdge p y = true →
    st.2 ≤ idxOf st.1 y

theorem foldInv_init (hp : Pre g gr (n + 1) x a) : FoldInv g n x a gr [] (push x a, a.next) := by
  have hpos := hp.inv.next_pos
  refine ⟨inv_push hp, Ext.refl _, ?_, Nat.le_refl _,
    ⟨x, List.mem_cons_self, (idxOf_push_self x a).symm, Reach.refl _⟩,
    fun _ ht => (nomatch ht), fun _ ht => (nomatch ht), fun p hp hn => absurd hp hn⟩
  have h1 : whiteCount g (push x a) < whiteCount g a :=
    whiteCount_lt g (fun _ hy => (ext_push hpos hp.white).vis hy) hp.vmem hp.white
      (by rw [idxOf_push_self]; exact Nat.ne_of_gt hpos)
  exact Nat.lt_of_lt_of_le h1 (Nat.le_of_lt_succ hp.fuel)

/-- One more successor `t` has been looked at, taking the state from `st` to a later state `st'`
with a link no larger.  What was known of the successors done before carries over; what is asked
for is what is new: the invariant, a witness for the link if it dropped, that `t` is accounted for,
and that the vertices pushed meanwhile are. -/
theorem FoldInv.snoc {gr done : List α}
    {st st' : SccAcct α × Nat} (F : FoldInv g n x a gr done st) {t : α}
    (hinv : Inv g (x :: gr) st'.1) (hext : Ext st.1 st'.1) (hle : st'.2 ≤ st.2)
    (hreach : st'.2 < st.2 → ∃ y ∈ st'.1.stack, st'.2 = idxOf st'.1 y ∧ Reach g x y)
    (ht : idxOf st'.1 t ≠ 0) (hte : t ∈ a.stack → st'.2 ≤ idxOf st'.1 t)
    (hx : ∀ p ∈ st'.1.stack, p ∉ st.1.stack → ∀ y ∈ st.1.stack, g.hasEdge p y = true →
      st'.2 ≤ idxOf st'.1 y) :
    FoldInv g n x a gr (done ++ [t]) st' := by
  have hold : ∀ y ∈ a.stack, y ∈ st.1.stack := fun y hy =>
    F.ext.stack_mem (List.mem_cons_of_mem _ hy)
  refine ⟨hinv, F.ext.trans hext, Nat.lt_of_le_of_lt (hext.whiteCount_le g) F.fuel,
    Nat.le_trans hle F.le, ?_,
    List.forall_mem_append.2 ⟨fun t' h => hext.vis (F.done_vis t' h), ?_⟩,
    List.forall_mem_append.2 ⟨fun t' h hta => ?_, ?_⟩, fun p hps hpn y hya hpy => ?_⟩
  · rcases Nat.lt_or_eq_of_le hle with hlt | heq
    · exact hreach hlt
    · obtain ⟨y, hy, hye, hyr⟩ := F.reach
      exact ⟨y, hext.stack_mem hy, by rw [heq, hext.idx_pres y (F.inv.stack_vis hy), hye], hyr⟩
  · exact fun t' ht' => List.mem_singleton.1 ht' ▸ ht
  · rw [hext.idx_pres t' (F.done_vis t' h)]
    exact Nat.le_trans hle (F.done_edge t' h hta)
  · exact fun t' ht' => List.mem_singleton.1 ht' ▸ hte
  · by_cases hp' : p ∈ st.1.stack
    · rw [hext.idx_pres y (F.inv.stack_vis (hold y hya))]
      exact Nat.le_trans hle (F.xedge p hp' hpn y hya hpy)
    · exact hx p hps hp' y (hold y hya) hpy

theorem foldInv_step (hwf : g.WF)
    (hp : Pre g gr (n + 1) x a) (hrec : RecSpec g n) {done : List α} {st : SccAcct α × Nat}
    (F : FoldInv g n x a gr done st) {t : α} (he : g.hasEdge x t = true) :
    FoldInv g n x a gr (done ++ [t]) (sccEdge (sccVisit g n) st t) := by
  have hold : ∀ y ∈ a.stack, y ∈ st.1.stack := fun y hy =>
    F.ext.stack_mem (List.mem_cons_of_mem _ hy)
  rw [sccEdge_eq]
  split
  case isTrue hw =>
    -- `t` is new: the recursive call
    have hpre : Pre g (x :: gr) n t st.1 := by
      refine ⟨F.inv, (hasEdge_verts hwf he).2, hw, fun y hy => ?_, F.fuel⟩
      rcases List.mem_cons.mp hy with rfl | hy
      · exact reach_edge he
      · exact reach_trans (hp.access y hy) (reach_edge he)
    have P := hrec (x :: gr) t st.1 hpre
    generalize sccVisit g n t st.1 = r at P
    refine F.snoc P.inv P.ext (Nat.min_le_left _ _) (fun hlt => ?_)
      (P.vis ▸ Nat.ne_of_gt F.inv.next_pos) (fun hta => absurd hw (F.inv.stack_vis (hold _ hta)))
      (fun p hps hpn y hy hpy => Nat.le_trans (Nat.min_le_right _ _) (P.xedge p hps hpn y hy hpy))
    have hr : r.2 < st.2 := by
      change min st.2 r.2 < st.2 at hlt
      omega
    obtain ⟨y, hy, hye, hyr⟩ := P.reach
      (Nat.lt_of_lt_of_le hr (Nat.le_trans F.le (Nat.le_of_succ_le F.ext.next_le)))
    exact ⟨y, hy, (Nat.min_eq_right (Nat.le_of_lt hr)).trans hye, reach_trans (reach_edge he) hyr⟩
  case isFalse hw =>
    split
    case isTrue hts =>
      -- `t` is on the stack: its index lowers the link
      refine F.snoc F.inv (Ext.refl _) (Nat.min_le_left _ _) (fun hlt => ⟨t, hts, ?_, reach_edge he⟩)
        hw (fun _ => Nat.min_le_right _ _) (fun p hps hpn => absurd hps hpn)
      change min st.2 (idxOf st.1 t) < st.2 at hlt
      show min st.2 (idxOf st.1 t) = idxOf st.1 t
      omega
    case isFalse hts =>
      -- `t` lies in a finished component
      exact F.snoc F.inv (Ext.refl _) (Nat.le_refl _) (fun hlt => absurd hlt (Nat.lt_irrefl _))
        hw (fun hta => absurd (hold _ hta) hts) (fun p hps hpn => absurd hps hpn)

theorem foldInv_fold (hwf : g.WF)
    (hp : Pre g gr (n + 1) x a) (hrec : RecSpec g n) (ts done : List α) (st : SccAcct α × Nat)
    (F : FoldInv g n x a gr done st) (h : ∀ t ∈ ts, g.hasEdge x t = true) :
    FoldInv g n x a gr (done ++ ts) (ts.foldl (sccEdge (sccVisit g n)) st) := by
  induction ts generalizing done st with
  | nil => rw [List.append_nil]; exact F
  | cons t ts ih =>
    have := ih (done ++ [t]) _ (foldInv_step hwf hp hrec F (h t List.mem_cons_self))
      (fun t' ht' => h t' (List.mem_cons_of_mem _ ht'))
    rwa [List.append_assoc] at this

theorem foldInv_outs (hwf : g.WF)
    (hp : Pre g gr (n + 1) x a) (hrec : RecSpec g n) :
    FoldInv g n x a gr (g.outs x) ((g.outs x).foldl (sccEdge (sccVisit g n)) (push x a, a.next)) := by
  have := foldInv_fold hwf hp hrec (g.outs x) [] _ (foldInv_init hp) (fun t ht => mem_outs.mp ht)
  simpa using this

end Tarjan
end ArgMapper
