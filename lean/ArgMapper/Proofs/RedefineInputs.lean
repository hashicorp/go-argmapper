import ArgMapper.Proofs.CallGraphEdges
import ArgMapper.Proofs.SearchOut
import ArgMapper.Proofs.ExecEqs
import ArgMapper.Model.Redefine
/-!
# Helper lemmas for C08 (Redefine declares exactly the missing, permitted inputs)

* `withDeclared`: the options the redefined function adds; `declaredInputs`; `redefine` by cases;
* `planOne_s`: the state one step of the planning loop leaves, with `zeroFill` the write it makes in redefine
  mode;
* `reach_inputs`: `reach` changes `inputSet` only by recording vertices adjacent to the root (when
  `skipRecordsInput = false`).  So everything recorded is adjacent to the root (`reach_inputSet`), nothing is
  recorded twice and nothing is taken out; a successful search has recorded the input of a real path to every
  requirement it did not take as it is (`reach_resolved`, `redefine_resolved`);
* `callGraph_rootAdj`: in the Redefine graph, every value / arg vertex adjacent to the root is a
  supplied vertex or passes the input filter.
-/
namespace ArgMapper.C08
open ArgMapper

/-- the options the redefined function adds: `Named(name, v)` for a named declared input, `Typed(v)` for a
type-only one, `v` a value of exactly the declared type with provenance `idOf l` -/
def withDeclared (b : Builder) (ls : List Label) (idOf : Label → Nat) : Builder :=
  ls.foldl (fun b l => setNamed b l.name (some { ty := l.ty, id := idOf l })) b

end ArgMapper.C08

namespace ArgMapper.RedefineInputs
open ArgMapper WalkEqs ReachEqs ExecEqs Generated

/-! ### `declaredInputs`, `redefine` -/

theorem mem_declaredInputs (inputSet provided : List Vtx) (l : Label) :
    l ∈ declaredInputs inputSet provided ↔
      ∃ v ∈ inputSet, v ∉ provided ∧ (v.isValue = true ∨ v.isArg = true) ∧
        l = { v.label with sub := "" } := by
  unfold declaredInputs
  rw [List.mem_filterMap]
  constructor
  · rintro ⟨v, hv, hl⟩
    obtain ⟨hv, hnot⟩ := List.mem_filter.1 hv
    have hnot : v ∉ provided := by simpa using hnot
    cases v with
    | value n t s => exact ⟨_, hv, hnot, .inl rfl, (Option.some.inj hl).symm⟩
    | arg t s => exact ⟨_, hv, hnot, .inr rfl, (Option.some.inj hl).symm⟩
    | _ => cases hl
  · rintro ⟨v, hv, hnot, hk, rfl⟩
    refine ⟨v, List.mem_filter.2 ⟨hv, by simpa using hnot⟩, ?_⟩
    cases v <;> first | rfl | (rcases hk with h | h <;> cases h)

def redefOfErr : RErr → RedefOutcome
  | .unsat a => .unsat a false
  | .funcErr e => .funcErr e
  | .missingArg => .missingArg
  | .panic k => .panic k
  | .outOfFuel => .outOfFuel
  | .badOracle w => .badOracle w

inductive RedefStep (c : Ctx) (cgr : CallGraphResult) (target : FuncDesc) (fout : Option Filter) (fuel : Nat)
    (s0 : CallSt) : RedefOutcome → Prop
  | filtered (ho : outputsPass c.env target fout = false) : RedefStep c cgr target fout fuel s0 .outputFiltered
  | graphUnsat (ho : outputsPass c.env target fout = true) (hu : cgr.unsat.isEmpty = false) :
      RedefStep c cgr target fout fuel s0 (.unsat cgr.unsat true)
  | reachErr (ho : outputsPass c.env target fout = true) (hu : cgr.unsat = []) {e : RErr} {s : CallSt}
      (hr : reach c true fuel [] cgr.target s0 = (.error e, s)) : RedefStep c cgr target fout fuel s0 (redefOfErr e)
  /-- the planning run succeeded: the declared inputs are read off its input set, and `StructOf` must accept
  their names -/
  | planned (ho : outputsPass c.env target fout = true) (hu : cgr.unsat = []) {am : ArgMap} {s : CallSt}
      (hr : reach c true fuel [] cgr.target s0 = (.ok am, s)) :
      RedefStep c cgr target fout fuel s0
        (if fieldsOK (declaredInputs s.inputSet cgr.inputs) then .ok (declaredInputs s.inputSet cgr.inputs)
         else .dupName)

theorem redefine_cases (c : Ctx) (cgr : CallGraphResult) (target : FuncDesc) (fout : Option Filter)
    (fuel : Nat) (s0 : CallSt) : RedefStep c cgr target fout fuel s0 (redefine c cgr target fout fuel s0) := by
  unfold redefine
  cases ho : outputsPass c.env target fout with
  | false => exact .filtered ho
  | true =>
    rw [Bool.not_true, if_neg Bool.false_ne_true]
    split
    · rename_i hu
      exact .graphUnsat ho (by simpa using hu)
    · rename_i hu
      have hu : cgr.unsat = [] := by simpa using hu
      rcases hr : reach c true fuel [] cgr.target s0 with ⟨e | am, s⟩
      · cases e <;> exact .reachErr ho hu hr
      · exact .planned ho hu hr

theorem redefine_ok (c : Ctx) (cgr : CallGraphResult) (target : FuncDesc) (fout : Option Filter)
    (fuel : Nat) (s0 : CallSt) (ls : List Label) (h : redefine c cgr target fout fuel s0 = .ok ls) :
    cgr.unsat = [] ∧ ∃ am s, reach c true fuel [] cgr.target s0 = (.ok am, s) ∧
      ls = declaredInputs s.inputSet cgr.inputs ∧ fieldsOK ls = true := by
  have hstep := redefine_cases c cgr target fout fuel s0
  rw [h] at hstep
  generalize hr : RedefOutcome.ok ls = r at hstep
  cases hstep with
  | filtered ho => cases hr
  | graphUnsat ho hu => cases hr
  | @reachErr ho hu e s hre => cases e <;> cases hr
  | @planned ho hu am s hre =>
    split at hr
    · rename_i hf
      cases hr
      exact ⟨hu, am, s, hre, rfl, hf⟩
    · cases hr

/-! ### the planning loop -/

/-- what planning stores at the input of a chosen path in redefine mode: a zero value, unless a value vertex
already holds one -/
def zeroFill (s : CallSt) (x : Vtx) : CallSt :=
  match x with
  | .value _ t _ => if (s.get x).isNone then s.set x (some (zeroVal t x)) else s
  | .arg t _ => s.set x (some (zeroVal t x))
  | _ => s

theorem planOne_s (target : Vtx) (reaching : List Vtx) (tr rd : Bool) (ps : PlanSt) (cp : Vtx × List Vtx) :
    (planOne target reaching tr rd ps cp).s =
      match pathInput cp.2 with
      | none => ps.s
      | some x => if rd then zeroFill (ps.s.addInput x) x else ps.s.addInput x := by
  unfold planOne zeroFill
  dsimp only
  cases pathInput cp.2 <;> rfl

theorem zeroFill_cases (s : CallSt) (x : Vtx) :
    zeroFill s x = s ∨ zeroFill s x = s.set x (some (zeroVal x.ty x)) := by
  unfold zeroFill
  split
  · split
    · exact .inr rfl
    · exact .inl rfl
  · exact .inr rfl
  · exact .inl rfl

theorem zeroFill_isSome (s : CallSt) (x : Vtx) (hk : x.isValue = true ∨ x.isArg = true) :
    ((zeroFill s x).get x).isSome = true := by
  unfold zeroFill
  split
  · split
    · rw [get_set, if_pos rfl]; rfl
    · rename_i h
      cases hg : s.get (.value _ _ _) with
      | none => rw [hg] at h; exact absurd rfl h
      | some a => rfl
  · rw [get_set, if_pos rfl]; rfl
  · rename_i h1 h2
    cases x with
    | value n t u => exact absurd rfl (h1 n t u)
    | arg t u => exact absurd rfl (h2 t u)
    | _ => rcases hk with h | h <;> cases h

@[simp] theorem set_inputSet (s : CallSt) (v : Vtx) (x : Option PVal) : (s.set v x).inputSet = s.inputSet := by
  unfold CallSt.set; split <;> rfl

theorem zeroFill_inputSet (s : CallSt) (x : Vtx) : (zeroFill s x).inputSet = s.inputSet := by
  rcases zeroFill_cases s x with h | h <;> rw [h]
  exact set_inputSet _ _ _

theorem planOne_inputSet (target : Vtx) (reaching : List Vtx) (tr rd : Bool) (ps : PlanSt) (cp : Vtx × List Vtx) :
    (planOne target reaching tr rd ps cp).s.inputSet =
      match pathInput cp.2 with
      | none => ps.s.inputSet
      | some x => (ps.s.addInput x).inputSet := by
  rw [planOne_s]
  split
  · rfl
  · split
    · exact zeroFill_inputSet _ _
    · rfl

/-! ### `inputSet` is touched only by `addInput` -/

theorem mem_addInput (s : CallSt) (v u : Vtx) : u ∈ (s.addInput v).inputSet ↔ u ∈ s.inputSet ∨ u = v := by
  unfold CallSt.addInput
  split
  · rename_i hv
    exact ⟨.inl, fun h => h.elim id (fun h => h ▸ hv)⟩
  · exact List.mem_append.trans (or_congr .rfl List.mem_singleton)

theorem addInput_nodup (s : CallSt) (v : Vtx) (h : s.inputSet.Nodup) : (s.addInput v).inputSet.Nodup := by
  unfold CallSt.addInput
  split
  · exact h
  · rename_i hv
    refine List.nodup_append.2 ⟨h, List.pairwise_singleton _ v, fun a ha b hb hab => ?_⟩
    rw [hab, List.mem_singleton.1 hb] at ha
    exact hv ha

theorem callDirect_inputSet {c : Ctx} {f : FuncDesc} {am : ArgMap} {s s' : CallSt}
    {r : Except RErr (BehOut × Bool)} (h : callDirect c f am s = (r, s')) : s'.inputSet = s.inputSet := by
  have hc := callDirect_cases c f am s
  rw [h] at hc
  cases hc <;> rfl

theorem outputValues_inputSet {c : Ctx} {f : FuncDesc} {r : BehOut} {u : Bool} {s s' : CallSt}
    (h : outputValues c f r u s = .ok s') : s'.inputSet = s.inputSet := by
  obtain ⟨st, memo, rfl, _⟩ := outputValues_ok h
  rfl

theorem pathInput_of_valid (g : AGraph Vtx) (cur : Vtx) (p : List Vtx) (hne : cur ≠ .root)
    (h : validPath g cur p = true) : ∃ y, pathInput p = some y ∧ g.hasEdge y .root = true := by
  have hlast := validPath_last h
  obtain ⟨rest, rfl, hch⟩ := Complete.validPath_cons h
  cases rest with
  | nil => exact absurd (Option.some.inj hlast).symm hne
  | cons y rest' => exact ⟨y, rfl, hch.1⟩

section
variable {c : Ctx} (T : List Vtx → Prop)

/-- the walk itself records nothing: only the nested searches do -/
theorem walkStep_inputs (rec : Vtx → CallSt → Except RErr ArgMap × CallSt)
    (hrec : ∀ v s, T s.inputSet → T (rec v s).2.inputSet) (w : WalkSt) (v : Vtx) (hw : T w.s.inputSet) :
    T (walkStep c rec w v).s.inputSet := by
  cases herr : w.err with
  | some e => rw [walkStep_err c rec herr]; exact hw
  | none =>
    rcases walkStep_data c rec herr v with ⟨st, l, fin, hd⟩ | ⟨k, rfl⟩
    · rw [hd]; exact hw
    · have hr := hrec (.func k) w.s hw
      have hstep := walkStep_func c rec herr k
      generalize walkStep c rec w (.func k) = w' at hstep ⊢
      cases hstep with
      | unknown hf => exact hw
      | recErr hf hrs => rw [hrs] at hr; exact hr
      | cdErr hf hrs hcs => rw [hrs] at hr; rw [callDirect_inputSet hcs]; exact hr
      | funcErr hf hrs hcs _ => rw [hrs] at hr; rw [callDirect_inputSet hcs]; exact hr
      | outErr hf hrs hcs _ _ => rw [hrs] at hr; rw [callDirect_inputSet hcs]; exact hr
      | ok hf hrs hcs _ hov =>
        rw [hrs] at hr
        rw [outputValues_inputSet hov, callDirect_inputSet hcs]
        exact hr

theorem reach_inputs (hskip : c.skipRecordsInput = false)
    (hadd : ∀ (s : CallSt) (y : Vtx), c.g.hasEdge y .root = true →
      T s.inputSet → T (s.addInput y).inputSet)
    (rd : Bool) (n : Nat) (reaching : List Vtx) (t : Vtx) (s : CallSt) (hs : T s.inputSet) :
    T (reach c rd n reaching t s).2.inputSet := by
  induction n generalizing reaching t s with
  | zero => exact hs
  | succ n ih =>
    have h1 := afterSkip_eq hskip s t
    -- planning records the second vertex of each path; the requirement is not the root, so there is one
    have hplan : ∀ item rest, ItemOK c s t item →
        T (plan c rd reaching t item { afterSkip c s t with orc := rest }).s.inputSet := fun item rest ok => by
      unfold plan
      apply foldl_inv_mem (fun (ps : PlanSt) => T ps.s.inputSet)
      · intro ps cp hcp hps
        obtain ⟨y, hy, hedge⟩ := pathInput_of_valid c.g cp.1 cp.2 (mem_missing.1 (ok.fst_missing hcp)).2.1
          (ok.valid cp hcp)
        rw [planOne_inputSet, hy]
        exact hadd _ y hedge hps
      · rw [h1]; exact hs
    have hstep := reach_succ c rd n reaching t s
    generalize reach c rd (n + 1) reaching t s = r at hstep ⊢
    cases hstep with
    | badOracle w orc => rw [h1]; exact hs
    | nothingMissing item rest hi hm => rw [h1]; exact hs
    | unsat item rest hi ok hu => exact hplan item rest ok
    | walk item rest hi ok hu =>
      exact walkPaths_inv (fun st => T st.inputSet) (walkStep_inputs T _ (fun v st hst => ih _ v st hst)) _ _ _
        (hplan item rest ok)

end

section
variable (c : Ctx) (hskip : c.skipRecordsInput = false) (rd : Bool) (n : Nat) (reaching : List Vtx) (t : Vtx)
  (s : CallSt)
include hskip

theorem reach_inputSet (hs : ∀ v ∈ s.inputSet, c.g.hasEdge v .root = true) :
    ∀ v ∈ (reach c rd n reaching t s).2.inputSet, c.g.hasEdge v .root = true :=
  reach_inputs (fun L => ∀ v ∈ L, c.g.hasEdge v .root = true) hskip
    (fun s y hy h u hu => ((mem_addInput s y u).1 hu).elim (h u) (fun e => e ▸ hy)) rd n reaching t s hs

theorem reach_nodup (hs : s.inputSet.Nodup) : (reach c rd n reaching t s).2.inputSet.Nodup :=
  reach_inputs List.Nodup hskip (fun s y _ h => addInput_nodup s y h) rd n reaching t s hs

theorem reach_inputs_mono {x : Vtx} (hs : x ∈ s.inputSet) : x ∈ (reach c rd n reaching t s).2.inputSet :=
  reach_inputs (fun L => x ∈ L) hskip (fun s y _ h => (mem_addInput s y x).2 (.inl h)) rd n reaching t s hs

end

/-! ### what a successful search tells -/

theorem plan_records (c : Ctx) (rd : Bool) (reaching : List Vtx) (t : Vtx) (item : OrcItem) (st : CallSt) :
    ∀ cp ∈ item.missing.zip item.paths, ∀ y, pathInput cp.2 = some y →
      y ∈ (plan c rd reaching t item st).s.inputSet := by
  unfold plan
  refine foldl_mem _
    (fun (cp : Vtx × List Vtx) (ps : PlanSt) => ∀ y, pathInput cp.2 = some y → y ∈ ps.s.inputSet) (fun _ _ => True)
    (fun ps cp y hy => ?_) (fun ps cp cp' _ h y hy => ?_) _ (List.pairwise_of_forall fun _ _ => trivial) _
  · rw [planOne_inputSet, hy, mem_addInput]
    exact .inr rfl
  · rw [planOne_inputSet]
    split
    · exact h y hy
    · exact (mem_addInput _ _ _).2 (.inl (h y hy))

def Resolved (c : Ctx) (s : CallSt) (I : List Vtx) (r : Vtx) : Prop :=
  r = .root ∨ takenAsIs c s r = true ∨
    ∃ p x, validPath c.g r p = true ∧ pathInput p = some x ∧ x ∈ I

theorem reach_resolved {c : Ctx} (hskip : c.skipRecordsInput = false) {rd : Bool} {m : Nat} {reaching : List Vtx}
    {t : Vtx} {s s' : CallSt} {am : ArgMap} (h : reach c rd (m + 1) reaching t s = (.ok am, s')) :
    ∀ r ∈ c.g.outs t, Resolved c s s'.inputSet r := by
  intro r hr
  rcases skipped_or_missing s hr with hsk | hmis
  · exact (mem_skipped.1 hsk).2.imp id Or.inl
  · have hstep := reach_succ c rd m reaching t s
    rw [h] at hstep
    generalize he : (Except.ok am, s') = res at hstep
    cases hstep with
    | badOracle w orc => cases he
    | nothingMissing item rest hi hm => rw [hm] at hmis; cases hmis
    | unsat item rest hi ok hu => cases he
    | walk item rest hi ok hu =>
      obtain ⟨p, hp, hz⟩ := ok.path_of_missing hmis
      have hv := ok.valid (r, p) hz
      obtain ⟨y, hpi, _⟩ := pathInput_of_valid c.g r p (mem_missing.1 hmis).2.1 hv
      refine .inr (.inr ⟨p, y, hv, hpi, ?_⟩)
      -- recorded by the planning loop, and nothing is ever taken out of the input set
      have hs' : s' = _ := congrArg Prod.snd he
      rw [hs']
      exact walkPaths_inv (fun st => y ∈ st.inputSet)
        (walkStep_inputs (fun L => y ∈ L) _ (fun v st hst => reach_inputs_mono c hskip rd m _ v st hst)) _ _ _
        (plan_records c rd reaching t item _ _ hz y hpi)

theorem redefine_resolved {c : Ctx} (hskip : c.skipRecordsInput = false) {cgr : CallGraphResult}
    {target : FuncDesc} {fout : Option Filter} {fuel : Nat} {s0 : CallSt} (hs0 : s0.inputSet = [])
    {ls : List Label} (h : redefine c cgr target fout fuel s0 = .ok ls) :
    cgr.unsat = [] ∧ ∃ I : List Vtx, I.Nodup ∧ ls = declaredInputs I cgr.inputs ∧ fieldsOK ls = true ∧
      (∀ x ∈ I, c.g.hasEdge x .root = true) ∧ ∀ r ∈ c.g.outs cgr.target, Resolved c s0 I r := by
  obtain ⟨hun, am, s, hreach, hls, hfields⟩ := redefine_ok c cgr target fout fuel s0 ls h
  have hadj := reach_inputSet c hskip true fuel [] cgr.target s0 (by rw [hs0]; exact fun _ hv => nomatch hv)
  have hnd := reach_nodup c hskip true fuel [] cgr.target s0 (by rw [hs0]; exact List.nodup_nil)
  rw [hreach] at hadj hnd
  refine ⟨hun, s.inputSet, hnd, hls, hfields, hadj, ?_⟩
  cases fuel with
  | zero => cases hreach
  | succ m => exact reach_resolved hskip hreach

/-! ### root-adjacent vertices of the Redefine graph -/

/-- an edge from a value / arg vertex into the root is created for a supplied value, or by R8 for a
vertex that passes the filter -/
theorem gen_rootAdj {P : Rules} {v : Vtx} {w : Int} (hk : v.isValue = true ∨ v.isArg = true)
    (h : Gen P v .root w) : v ∈ P.ins ∨ passesF P.env P.filter v.ty = true := by
  generalize hr : Vtx.root = r at h
  cases h with
  | funcRoot f => rcases hk with h | h <;> cases h
  | req f val => exact absurd hr.symm (Prune.vertex_ne_root _)
  | input x hx => exact .inl hx
  | redefine v _ _ hp => exact .inr hp
  | _ => cases hr

theorem callGraph_rootAdj (var : Variant) (e : TypeEnv) (b : Builder) (funcs : Nat → Option FuncDesc)
    (target : FuncDesc) (fin : Option Filter) (v : Vtx) (hk : v.isValue = true ∨ v.isArg = true)
    (h : (callGraph var e b funcs target true fin).cg.g.hasEdge v .root = true) :
    v ∈ (callGraph var e b funcs target true fin).inputs ∨ passesF e fin v.ty = true := by
  rw [callGraph_cg] at h
  rw [callGraph_inputs]
  obtain ⟨w, hw⟩ := AGraph.hasEdge_iff_weight.1 (ExactWins.hasEdge_prune _ _ _ _ h)
  exact gen_rootAdj (P := rulesOf var e b funcs target true fin) hk (lastV_weight _ _ _ _ _ _ _ hw)

end ArgMapper.RedefineInputs
