import ArgMapper.Model.Reach
import ArgMapper.Proofs.Dijkstra
import ArgMapper.Proofs.Lists
/-!
# Helper lemmas for C07 (call-graph level), part 1

* what `discount` does to vertices, weights and well-formedness;
* `legalChoice` gives `LegalPops`;
* the shape of a predecessor chain whose last links are known.
-/
namespace ArgMapper.AffinityCG
open ArgMapper AGraph Dijkstra DijkstraProofs

section generic
variable {α : Type} [DecidableEq α]

theorem outsW_single {g : AGraph α} (hwf : g.WF) {p v : α} {w : Int} (h : g.outsW p = [(v, w)]) :
    g.weight p v = some w ∧ ∀ x, g.hasEdge p x = true → x = v := by
  refine ⟨(weight_iff_outsW hwf).1 (by rw [h]; exact List.mem_singleton.2 rfl), ?_⟩
  intro x hx
  obtain ⟨w', hw'⟩ := hasEdge_iff_weight.1 hx
  have := (weight_iff_outsW hwf).2 hw'
  rw [h] at this
  simp only [List.mem_singleton, Prod.mk.injEq] at this
  exact this.1

/-! ### re-weighting every edge into one vertex, into a list of vertices -/

theorem foldl_addEdge_weight (raw : α) (w : Int) (S : List α) (h : AGraph α) (x y : α) :
    (S.foldl (fun g src => g.addEdge src raw w) h).weight x y =
      if y = raw ∧ x ∈ S then some w else h.weight x y := by
  induction S generalizing h with
  | nil => simp
  | cons s S ih =>
    rw [List.foldl_cons, ih, weight_addEdge]
    by_cases hy : y = raw <;> by_cases hx : x = s <;> by_cases hS : x ∈ S <;> simp [hy, hx, hS]

/-- `AddEdgeWeighted(src, raw, w)` for every in-neighbour `src` of `raw` -/
def reweightInto (w : Int) (h : AGraph α) (raw : α) : AGraph α :=
  (h.ins raw).foldl (fun g src => g.addEdge src raw w) h

theorem reweightInto_weight (w : Int) (h : AGraph α) (raw x y : α) :
    (reweightInto w h raw).weight x y =
      if y = raw ∧ h.hasEdge x y = true then some w else h.weight x y := by
  unfold reweightInto
  rw [foldl_addEdge_weight]
  by_cases hy : y = raw
  · subst hy
    simp only [true_and, mem_ins]
  · simp [hy]

theorem reweightInto_hasEdge (w : Int) (h : AGraph α) (raw x y : α) :
    (reweightInto w h raw).hasEdge x y = h.hasEdge x y := by
  unfold hasEdge
  rw [reweightInto_weight]
  split
  · rename_i hc
    have := hc.2
    unfold hasEdge at this
    simp [this]
  · rfl

theorem foldl_reweight_verts (w : Int) (L : List α) (h : AGraph α) :
    (L.foldl (reweightInto w) h).verts = h.verts :=
  foldl_inv (fun g => g.verts = h.verts) (reweightInto w)
    (fun g raw hg => foldl_inv (fun g' => g'.verts = h.verts) (fun g' src => g'.addEdge src raw w)
      (fun _ _ hg' => hg') (g.ins raw) g hg) L h rfl

theorem foldl_reweight_WF (w : Int) (L : List α) (h : AGraph α) (hwf : h.WF) :
    (L.foldl (reweightInto w) h).WF := by
  refine foldl_inv AGraph.WF (reweightInto w) (fun g raw hg => ?_) L h hwf
  refine (foldl_inv_mem (fun g' => g'.WF ∧ g'.verts = g.verts) (fun g' src => g'.addEdge src raw w)
    (g.ins raw) ?_ g ⟨hg, rfl⟩).1
  intro g' s hs ⟨hwf', hv⟩
  have hsr := hasEdge_verts hg (mem_ins.1 hs)
  exact ⟨WF_addEdge g' s raw w hwf' (hv ▸ hsr.1) (hv ▸ hsr.2), hv⟩

theorem foldl_reweight_weight (w : Int) (L : List α) (h : AGraph α) (x y : α) :
    (L.foldl (reweightInto w) h).weight x y =
      if y ∈ L ∧ h.hasEdge x y = true then some w else h.weight x y := by
  induction L generalizing h with
  | nil => simp
  | cons raw L ih =>
    rw [List.foldl_cons, ih, reweightInto_hasEdge, reweightInto_weight]
    by_cases hy : y = raw
    · subst hy
      by_cases hL : y ∈ L <;> by_cases he : h.hasEdge x y = true <;> simp [hL, he]
    · by_cases hL : y ∈ L <;> by_cases he : h.hasEdge x y = true <;> simp [hy, hL, he]

/-! ### predecessor chains -/

omit [DecidableEq α] in
theorem pchain_drop {prev : α → Option α} (l p : List α) (h : PChain prev (l ++ p)) : PChain prev p := by
  induction l with
  | nil => exact h
  | cons a l ih =>
    cases l with
    | nil =>
      cases p with
      | nil => trivial
      | cons b rest => exact h.2
    | cons b l => exact ih h.2

omit [DecidableEq α] in
theorem pchain_pred {prev : α → Option α} {l : List α} {y : α} {rest : List α}
    (hc : PChain prev (l ++ y :: rest))
    (hh : ∃ r0, (l ++ y :: rest).head? = some r0 ∧ prev r0 = none) :
    (prev y = none → l = []) ∧ (∀ x, prev y = some x → ∃ l', l = l' ++ [x]) := by
  rcases List.eq_nil_or_concat l with rfl | ⟨l', z, rfl⟩
  · obtain ⟨r0, h1, h2⟩ := hh
    simp only [List.nil_append, List.head?_cons, Option.some.injEq] at h1
    subst h1
    refine ⟨fun _ => rfl, fun x hx => ?_⟩
    rw [h2] at hx; cases hx
  · have h2 : PChain prev (z :: y :: rest) := by
      apply pchain_drop l'
      simpa using hc
    have hz : prev y = some z := h2.1
    refine ⟨fun hn => ?_, fun x hx => ?_⟩
    · rw [hn] at hz; cases hz
    · rw [hx] at hz; cases hz
      exact ⟨l', by simp⟩

omit [DecidableEq α] in
theorem pchain_three {prev : α → Option α} {p l rest : List α} {r u a : α}
    (hp : p = l ++ a :: rest) (hc : PChain prev p)
    (hh : ∃ r0, p.head? = some r0 ∧ prev r0 = none)
    (ha : prev a = some u) (hu : prev u = some r) (hr : prev r = none) :
    p = r :: u :: a :: rest := by
  subst hp
  obtain ⟨l1, rfl⟩ := (pchain_pred hc hh).2 u ha
  have e1 : l1 ++ [u] ++ a :: rest = l1 ++ u :: a :: rest := by simp
  rw [e1] at hc hh ⊢
  obtain ⟨l2, rfl⟩ := (pchain_pred hc hh).2 r hu
  have e2 : l2 ++ [r] ++ u :: a :: rest = l2 ++ r :: u :: a :: rest := by simp
  rw [e2] at hc hh ⊢
  have := (pchain_pred hc hh).1 hr
  subst this
  rfl

omit [DecidableEq α] in
theorem pchain_four {prev : α → Option α} {p l rest : List α} {r u f o : α}
    (hp : p = l ++ o :: rest) (hc : PChain prev p)
    (hh : ∃ r0, p.head? = some r0 ∧ prev r0 = none)
    (ho : prev o = some f) (hf : prev f = some u) (hu : prev u = some r) (hr : prev r = none) :
    p = r :: u :: f :: o :: rest := by
  subst hp
  obtain ⟨l1, rfl⟩ := (pchain_pred hc hh).2 f ho
  have e1 : l1 ++ [f] ++ o :: rest = l1 ++ f :: (o :: rest) := by simp
  rw [e1] at hc hh ⊢
  exact pchain_three rfl hc hh hf hu hr

end generic

/-! ### `discount` -/

theorem discount_eq (g : AGraph Vtx) (n : String) (S : Nat) (sc : String) :
    discount g (.value n S sc) =
      (g.verts.filter (fun v => v.isValue && v.name == n)).foldl
        (reweightInto Generated.weightMatchingName) g := rfl

theorem discount_verts (g : AGraph Vtx) (cur : Vtx) : (discount g cur).verts = g.verts := by
  cases cur with
  | value n S sc => rw [discount_eq, foldl_reweight_verts]
  | _ => rfl

theorem discount_WF (g : AGraph Vtx) (cur : Vtx) (hwf : g.WF) : (discount g cur).WF := by
  cases cur with
  | value n S sc => rw [discount_eq]; exact foldl_reweight_WF _ _ _ hwf
  | _ => exact hwf

theorem discount_weight (g : AGraph Vtx) (hwf : g.WF) (n : String) (S : Nat) (sc : String) (x y : Vtx) :
    (discount g (.value n S sc)).weight x y =
      if (y.isValue = true ∧ y.name = n) ∧ g.hasEdge x y = true then some Generated.weightMatchingName
      else g.weight x y := by
  rw [discount_eq, foldl_reweight_weight]
  by_cases he : g.hasEdge x y = true
  · have hy := (hasEdge_verts hwf he).2
    simp [he, hy]
  · simp [he]

/-- the graph Dijkstra runs on: requirements re-weighted for `cur`, edges turned round so that
the search starts at the root -/
abbrev G (g : AGraph Vtx) (cur : Vtx) : AGraph Vtx := (discount g cur).reverse

theorem G_weight (g : AGraph Vtx) (hwf : g.WF) (n : String) (S : Nat) (sc : String) (x y : Vtx) :
    (G g (.value n S sc)).weight x y =
      if (x.isValue = true ∧ x.name = n) ∧ g.hasEdge y x = true then some Generated.weightMatchingName
      else g.weight y x := by
  rw [weight_reverse, discount_weight g hwf]

theorem G_WF (g : AGraph Vtx) (hwf : g.WF) (cur : Vtx) : (G g cur).WF :=
  WF_reverse _ (discount_WF g cur hwf)

theorem G_verts (g : AGraph Vtx) (cur : Vtx) : (G g cur).verts = g.verts :=
  discount_verts g cur

theorem legalPops_of_legalChoice {g : AGraph Vtx} {cur : Vtx} {pops : List Vtx}
    (h : legalChoice g cur pops = true) : LegalPops (G g cur) Vtx.root pops := by
  simp only [legalChoice, Bool.and_eq_true, decide_eq_true_eq, List.all_eq_true] at h
  exact ⟨h.1.1, h.1.2, fun v hv => h.2 v hv⟩

theorem choosePath_chain (g : AGraph Vtx) (cur : Vtx) (pops : List Vtx) (hnd : pops.Nodup) :
    PChain (run (G g cur) Vtx.root pops).prev (choosePath g cur pops) ∧
    (choosePath g cur pops).getLast? = some cur ∧
    ∃ r0, (choosePath g cur pops).head? = some r0 ∧ (run (G g cur) Vtx.root pops).prev r0 = none := by
  obtain ⟨h1, _, h3, h4⟩ := tree_aux (G g cur) Vtx.root pops hnd cur
  exact ⟨h1, h3, h4⟩

end ArgMapper.AffinityCG
