import ArgMapper.Model.Graph
import ArgMapper.Proofs.Lists
/-!
# Plain facts about `AGraph`

Edges as a list against `weight` / `hasEdge` / `outs` / `ins`; what well-formedness gives; the
mutators at the level of `weight`, `verts` and `WF`; reachability and paths.
-/
namespace ArgMapper

/-! ### lists -/

theorem length_filter_le_of_imp {β : Type} {p q : β → Bool} {l : List β}
    (h : ∀ x ∈ l, p x = true → q x = true) : (l.filter p).length ≤ (l.filter q).length := by
  rw [← List.countP_eq_length_filter, ← List.countP_eq_length_filter]
  exact List.countP_mono_left h

theorem countP_lt_of_imp {β : Type} {p q : β → Bool} {l : List β}
    (h : ∀ x ∈ l, p x = true → q x = true) (v : β) (hv : v ∈ l) (hpv : p v = false)
    (hqv : q v = true) : l.countP p < l.countP q := by
  induction l with
  | nil => cases hv
  | cons a l ih =>
    have hl : ∀ x ∈ l, p x = true → q x = true := fun x hx => h x (List.mem_cons_of_mem _ hx)
    have hmono : l.countP p ≤ l.countP q := List.countP_mono_left hl
    rw [List.countP_cons, List.countP_cons]
    rcases List.mem_cons.mp hv with rfl | hv
    · rw [if_neg (by simp [hpv]), if_pos hqv]; omega
    · have ih := ih hl hv
      by_cases hpa : p a = true
      · rw [if_pos hpa, if_pos (h a List.mem_cons_self hpa)]; omega
      · rw [if_neg hpa]; split <;> omega

theorem length_filter_lt_of_imp {β : Type} {p q : β → Bool} {l : List β}
    (h : ∀ x ∈ l, p x = true → q x = true) {v : β} (hv : v ∈ l) (hp : p v = false)
    (hq : q v = true) : (l.filter p).length < (l.filter q).length := by
  rw [← List.countP_eq_length_filter, ← List.countP_eq_length_filter]
  exact countP_lt_of_imp h v hv hp hq

namespace AGraph
variable {α : Type} [DecidableEq α] {g : AGraph α} {u v : α} {w : Int}

theorem isEdge_iff (u v : α) (e : α × α × Int) : isEdge u v e = true ↔ e.1 = u ∧ e.2.1 = v := by
  simp [isEdge]

/-! ### `weight`, `hasEdge` and the list of edges -/

theorem weight_some_mem (h : g.weight u v = some w) : (u, v, w) ∈ g.edges := by
  unfold weight at h
  obtain ⟨⟨a, b, c⟩, hf, hc⟩ := Option.map_eq_some_iff.1 h
  obtain ⟨rfl, rfl⟩ := (isEdge_iff u v _).1 (List.find?_some hf)
  exact hc ▸ List.mem_of_find?_eq_some hf

theorem hasEdge_iff_weight : g.hasEdge u v = true ↔ ∃ w, g.weight u v = some w :=
  Option.isSome_iff_exists

theorem hasEdge_of_mem (h : (u, v, w) ∈ g.edges) : g.hasEdge u v = true := by
  unfold hasEdge weight
  rw [Option.isSome_map, List.find?_isSome]
  exact ⟨(u, v, w), h, (isEdge_iff u v _).2 ⟨rfl, rfl⟩⟩

theorem hasEdge_iff_mem : g.hasEdge u v = true ↔ ∃ w, (u, v, w) ∈ g.edges :=
  ⟨fun h => (hasEdge_iff_weight.1 h).imp fun _ => weight_some_mem, fun ⟨_, h⟩ => hasEdge_of_mem h⟩

theorem hasEdge_iff : g.hasEdge u v = true ↔ ∃ e ∈ g.edges, e.1 = u ∧ e.2.1 = v :=
  ⟨fun h => let ⟨_, hw⟩ := hasEdge_iff_mem.1 h; ⟨_, hw, rfl, rfl⟩,
    fun ⟨e, he, h1, h2⟩ => h1 ▸ h2 ▸ hasEdge_of_mem (w := e.2.2) he⟩

theorem mem_outsW : (v, w) ∈ g.outsW u ↔ (u, v, w) ∈ g.edges := by
  unfold outsW
  simp only [List.mem_map, List.mem_filter, decide_eq_true_eq]
  constructor
  · rintro ⟨⟨a, b, c⟩, ⟨hm, rfl⟩, hbc⟩
    cases hbc
    exact hm
  · exact fun h => ⟨(u, v, w), ⟨h, rfl⟩, rfl⟩

theorem mem_insW : (u, w) ∈ g.insW v ↔ (u, v, w) ∈ g.edges := by
  unfold insW
  simp only [List.mem_map, List.mem_filter, decide_eq_true_eq]
  constructor
  · rintro ⟨⟨a, b, c⟩, ⟨hm, rfl⟩, hac⟩
    cases hac
    exact hm
  · exact fun h => ⟨(u, v, w), ⟨h, rfl⟩, rfl⟩

theorem mem_outs : v ∈ g.outs u ↔ g.hasEdge u v = true := by
  rw [hasEdge_iff_mem]
  unfold outs
  simp only [List.mem_map, Prod.exists, exists_and_right, exists_eq_right, mem_outsW]

theorem mem_ins : u ∈ g.ins v ↔ g.hasEdge u v = true := by
  rw [hasEdge_iff_mem]
  unfold ins
  simp only [List.mem_map, Prod.exists, exists_and_right, exists_eq_right, mem_insW]

theorem weight_some_mem_outsW (h : g.weight u v = some w) : (v, w) ∈ g.outsW u :=
  mem_outsW.2 (weight_some_mem h)

/-! ### well-formed graphs -/

omit [DecidableEq α] in
theorem WF.nodup_verts (h : g.WF) : g.verts.Nodup := h.1

omit [DecidableEq α] in
theorem WF.nodup_edges (h : g.WF) : (g.edges.map (fun e => (e.1, e.2.1))).Nodup := h.2.1

omit [DecidableEq α] in
theorem WF.mem_verts (h : g.WF) {e : α × α × Int} (he : e ∈ g.edges) :
    e.1 ∈ g.verts ∧ e.2.1 ∈ g.verts := h.2.2 e he

theorem hasEdge_verts (hwf : g.WF) (h : g.hasEdge u v = true) : u ∈ g.verts ∧ v ∈ g.verts :=
  let ⟨_, hw⟩ := hasEdge_iff_mem.1 h
  hwf.mem_verts hw

theorem weight_verts (hwf : g.WF) (h : g.weight u v = some w) : u ∈ g.verts ∧ v ∈ g.verts :=
  hwf.mem_verts (weight_some_mem h)

/-- at most one edge per ordered pair: the listed weight is the one `weight` finds -/
theorem weight_of_mem (hwf : g.WF) (h : (u, v, w) ∈ g.edges) : g.weight u v = some w := by
  obtain ⟨w', hw'⟩ := hasEdge_iff_weight.1 (hasEdge_of_mem h)
  have := inj_of_nodup_map hwf.nodup_edges h (weight_some_mem hw') rfl
  rw [hw', (Prod.mk.inj (Prod.mk.inj this).2).2]

theorem weight_iff_outsW (hwf : g.WF) : (v, w) ∈ g.outsW u ↔ g.weight u v = some w :=
  ⟨fun h => weight_of_mem hwf (mem_outsW.1 h), weight_some_mem_outsW⟩

/-! ### `weight` and `verts` under the mutators -/

theorem weight_empty (a b : α) : (AGraph.empty : AGraph α).weight a b = none := rfl

theorem weight_add (g : AGraph α) (v : α) (a b : α) : (g.add v).weight a b = g.weight a b := by
  unfold add
  split <;> rfl

theorem mem_add_verts (g : AGraph α) (v x : α) : x ∈ (g.add v).verts ↔ x ∈ g.verts ∨ x = v := by
  unfold add
  split
  · rename_i hv
    exact ⟨Or.inl, fun h => h.elim id (fun e => e ▸ hv)⟩
  · simp

theorem mem_remove_verts (g : AGraph α) (v x : α) : x ∈ (g.remove v).verts ↔ x ∈ g.verts ∧ x ≠ v := by
  simp [remove]

theorem find_isEdge_filter (q : α × α × Int → Bool) (es : List (α × α × Int)) (a b : α) (c : Bool)
    (h : ∀ e, isEdge a b e = true → q e = c) :
    (es.filter q).find? (isEdge a b) = if c then es.find? (isEdge a b) else none := by
  rw [List.find?_filter]
  cases c with
  | true =>
    congr 1; funext e
    cases he : isEdge a b e <;> simp [h e, he]
  | false =>
    rw [if_neg (by simp), List.find?_eq_none]
    intro e _
    cases he : isEdge a b e <;> simp [h e, he]

theorem weight_addEdge (g : AGraph α) (u v : α) (w : Int) (a b : α) :
    (g.addEdge u v w).weight a b = if a = u ∧ b = v then some w else g.weight a b := by
  unfold weight addEdge
  rw [List.find?_append, find_isEdge_filter _ _ a b (!decide (a = u ∧ b = v))]
  · by_cases h : a = u ∧ b = v
    · simp [h, isEdge]
    · have : isEdge a b (u, v, w) = false := by
        simpa [isEdge] using fun e1 e2 => h ⟨e1.symm, e2.symm⟩
      simp [h, this]
  · intro e he
    obtain ⟨rfl, rfl⟩ := (isEdge_iff a b e).1 he
    simp [isEdge]

theorem weight_removeEdge (g : AGraph α) (u v : α) (a b : α) :
    (g.removeEdge u v).weight a b = if a = u ∧ b = v then none else g.weight a b := by
  unfold weight removeEdge
  rw [find_isEdge_filter _ _ a b (!decide (a = u ∧ b = v))]
  · by_cases h : a = u ∧ b = v <;> simp [h]
  · intro e he
    obtain ⟨rfl, rfl⟩ := (isEdge_iff a b e).1 he
    simp [isEdge]

theorem weight_remove (g : AGraph α) (v : α) (a b : α) :
    (g.remove v).weight a b = if a = v ∨ b = v then none else g.weight a b := by
  unfold weight remove
  rw [find_isEdge_filter _ _ a b (!decide (a = v ∨ b = v))]
  · by_cases h : a = v ∨ b = v <;> simp [h]
  · intro e he
    obtain ⟨rfl, rfl⟩ := (isEdge_iff a b e).1 he
    simp

theorem weight_reverse (g : AGraph α) (a b : α) : g.reverse.weight a b = g.weight b a := by
  unfold weight reverse
  rw [List.find?_map, Option.map_map]
  have : isEdge a b ∘ (fun e : α × α × Int => (e.2.1, e.1, e.2.2)) = isEdge b a := by
    funext e; simp [isEdge, Bool.and_comm]
  rw [this]; rfl

theorem hasEdge_reverse (g : AGraph α) (a b : α) : g.reverse.hasEdge a b = g.hasEdge b a := by
  unfold hasEdge
  rw [weight_reverse]

/-! ### `WF` under the mutators -/

omit [DecidableEq α] in
theorem WF_empty : (AGraph.empty : AGraph α).WF := by
  simp [WF, AGraph.empty]

theorem WF_add (g : AGraph α) (v : α) (h : g.WF) : (g.add v).WF := by
  unfold add
  split
  · exact h
  · rename_i hv
    refine ⟨?_, h.nodup_edges, fun e he => ?_⟩
    · exact List.nodup_append.2 ⟨h.nodup_verts, List.nodup_cons.2 ⟨List.not_mem_nil, List.nodup_nil⟩,
        fun a ha b hb e => hv (List.mem_singleton.1 hb ▸ e ▸ ha)⟩
    · have := h.mem_verts he
      exact ⟨List.mem_append_left _ this.1, List.mem_append_left _ this.2⟩

theorem WF_removeEdge (g : AGraph α) (u v : α) (h : g.WF) : (g.removeEdge u v).WF :=
  ⟨h.nodup_verts, (List.filter_sublist.map _).nodup h.nodup_edges,
    fun _ he => h.mem_verts (List.mem_filter.1 he).1⟩

theorem WF_addEdge (g : AGraph α) (u v : α) (w : Int) (h : g.WF) (hu : u ∈ g.verts) (hv : v ∈ g.verts) :
    (g.addEdge u v w).WF := by
  refine ⟨h.nodup_verts, ?_, ?_⟩
  · simp only [addEdge, List.map_append, List.map_cons, List.map_nil]
    refine List.nodup_append.2 ⟨(List.filter_sublist.map _).nodup h.nodup_edges,
      List.nodup_cons.2 ⟨List.not_mem_nil, List.nodup_nil⟩, ?_⟩
    intro a ha b hb heq
    obtain ⟨e, he, rfl⟩ := List.mem_map.1 ha
    rw [List.mem_singleton.1 hb] at heq
    have : isEdge u v e = true :=
      (isEdge_iff u v e).2 ⟨congrArg Prod.fst heq, congrArg Prod.snd heq⟩
    simp [this] at he
  · intro e he
    rcases List.mem_append.1 he with he | he
    · exact h.mem_verts (List.mem_filter.1 he).1
    · rw [List.mem_singleton.1 he]; exact ⟨hu, hv⟩

theorem WF_remove (g : AGraph α) (v : α) (h : g.WF) : (g.remove v).WF := by
  refine ⟨List.filter_sublist.nodup h.nodup_verts,
    (List.filter_sublist.map _).nodup h.nodup_edges, fun e he => ?_⟩
  simp only [remove, List.mem_filter, Bool.and_eq_true, decide_eq_true_eq] at he ⊢
  exact ⟨⟨(h.mem_verts he.1).1, he.2.1⟩, ⟨(h.mem_verts he.1).2, he.2.2⟩⟩

omit [DecidableEq α] in
theorem WF_reverse (g : AGraph α) (h : g.WF) : g.reverse.WF := by
  refine ⟨h.nodup_verts, ?_, ?_⟩
  · have : g.reverse.edges.map (fun e => (e.1, e.2.1)) =
        (g.edges.map (fun e => (e.1, e.2.1))).map (fun p => (p.2, p.1)) := by
      simp [reverse, List.map_map, Function.comp_def]
    rw [this]
    exact List.Pairwise.map _ (fun p q hpq heq => hpq (Prod.ext (congrArg Prod.snd heq)
      (congrArg Prod.fst heq))) h.nodup_edges
  · intro e he
    obtain ⟨e', he', rfl⟩ := List.mem_map.1 he
    exact (h.mem_verts he').symm

/-! ### reachability -/

theorem reach_trans {a b c : α} (h1 : Reach g a b) (h2 : Reach g b c) : Reach g a c := by
  induction h2 with
  | refl => exact h1
  | step _ he ih => exact Reach.step ih he

theorem reach_edge {a b : α} (h : g.hasEdge a b = true) : Reach g a b :=
  Reach.step (Reach.refl a) h

theorem reach_head {a b c : α} (he : g.hasEdge a b = true) (h : Reach g b c) : Reach g a c :=
  reach_trans (reach_edge he) h

theorem reach_mem_verts (hwf : g.WF) {a b : α} (ha : a ∈ g.verts) (h : Reach g a b) :
    b ∈ g.verts := by
  cases h with
  | refl => exact ha
  | step _ he => exact (hasEdge_verts hwf he).2

/-! ### paths -/

theorem isPath_snoc {p : List α} {a b : α} (hl : p.getLast? = some a) (hp : IsPath g p)
    (he : g.hasEdge a b = true) : IsPath g (p ++ [b]) := by
  induction p with
  | nil => cases hl
  | cons x p ih =>
    cases p with
    | nil => cases hl; exact ⟨he, trivial⟩
    | cons y rest => exact ⟨hp.1, ih (List.getLast?_cons_cons ▸ hl) hp.2⟩

theorem pathWeight_snoc {p : List α} {a b : α} (hl : p.getLast? = some a) :
    pathWeight g (p ++ [b]) = pathWeight g p + (g.weight a b).getD 0 := by
  induction p with
  | nil => cases hl
  | cons x p ih =>
    cases p with
    | nil => cases hl; simp [pathWeight]
    | cons y rest =>
      have := ih (List.getLast?_cons_cons ▸ hl)
      simp only [List.cons_append, pathWeight] at this ⊢
      rw [this, Int.add_assoc]

theorem reach_of_mem_path {p : List α} {v : α} (hp : IsPath g p) (hl : p.getLast? = some v) :
    ∀ w ∈ p, Reach g w v := by
  induction p with
  | nil => cases hl
  | cons x p ih =>
    intro w hw
    cases p with
    | nil =>
      cases hl
      rw [List.mem_singleton.1 hw]
      exact Reach.refl _
    | cons y rest =>
      have ih := ih hp.2 (List.getLast?_cons_cons ▸ hl)
      rcases List.mem_cons.1 hw with rfl | hw
      · exact reach_head hp.1 (ih y List.mem_cons_self)
      · exact ih w hw

theorem path_of_reach {u v : α} (h : Reach g u v) :
    ∃ p : List α, p.head? = some u ∧ p.getLast? = some v ∧ IsPath g p := by
  induction h with
  | refl => exact ⟨[u], rfl, rfl, trivial⟩
  | @step a b hr he ih =>
    obtain ⟨p, hh, hl, hp⟩ := ih
    refine ⟨p ++ [b], ?_, by simp, isPath_snoc hl hp he⟩
    cases p with
    | nil => simp at hh
    | cons x xs => simpa using hh

end AGraph
end ArgMapper
