import ArgMapper.Proofs.TarjanVisit
/-!
# Tarjan's SCC algorithm: the top-level loop and the final result
-/
namespace ArgMapper
namespace Tarjan
open AGraph Traverse TraverseReach
variable {α : Type} [DecidableEq α]
variable {g : AGraph α}

def initAcct : SccAcct α := { next := 1, index := [], stack := [], scc := [] }

theorem idxOf_init (x : α) : idxOf (initAcct : SccAcct α) x = 0 := rfl

theorem inv_init (g : AGraph α) : Inv g [] (initAcct : SccAcct α) := by
  refine ⟨Nat.le_refl _, fun x => by rw [idxOf_init]; exact Nat.zero_lt_one,
    fun x h => absurd (idxOf_init x) h, ?_, ?_, ?_, ?_, ?_, ?_, ?_, ?_, ?_⟩
  · intro x
    rw [idxOf_init]
    simp [initAcct]
  · intro x hx; cases hx
  · simp [initAcct]
  · simp [initAcct]
  · intro x hx; cases hx
  · intro x y _ hx; exact absurd (idxOf_init x) hx
  · intro x hx; cases hx
  · intro y hy; cases hy
  · intro c hc; cases hc

theorem sccTop_spec (hwf : g.WF) {a : SccAcct α} (hi : Inv g [] a) {v : α}
    (hv : v ∈ g.verts) :
    Inv g [] (sccTop g a v) ∧ Ext a (sccTop g a v) ∧ idxOf (sccTop g a v) v ≠ 0 := by
  unfold sccTop
  by_cases h : idxOf a v = 0
  · rw [if_pos h]
    have hp : Pre g [] (g.verts.length + 1) v a :=
      ⟨hi, hv, h, fun y hy => (by cases hy), Nat.lt_succ_of_le (List.length_filter_le _ _)⟩
    have P := visit_spec hwf _ [] v a hp
    refine ⟨P.inv, P.ext, ?_⟩
    rw [P.vis]
    have := hi.next_pos
    omega
  · rw [if_neg h]
    exact ⟨hi, Ext.refl a, h⟩

theorem fold_top (hwf : g.WF) : ∀ (vs : List α) (a : SccAcct α), Inv g [] a →
    (∀ v ∈ vs, v ∈ g.verts) →
    Inv g [] (vs.foldl (sccTop g) a) ∧ Ext a (vs.foldl (sccTop g) a) ∧
      ∀ v ∈ vs, idxOf (vs.foldl (sccTop g) a) v ≠ 0
  | [], a, hi, _ => ⟨hi, Ext.refl a, fun v hv => by cases hv⟩
  | v :: vs, a, hi, h => by
    obtain ⟨h1, h2, h3⟩ := sccTop_spec hwf hi (h v (by simp))
    obtain ⟨k1, k2, k3⟩ := fold_top hwf vs (sccTop g a v) h1 (fun w hw => h w (by simp [hw]))
    refine ⟨k1, h2.trans k2, ?_⟩
    intro w hw
    rcases List.mem_cons.mp hw with rfl | hw
    · exact k2.vis h3
    · exact k3 w hw

theorem Inv.stack_nil {a : SccAcct α} (hi : Inv g [] a) : a.stack = [] := by
  cases hs : a.stack with
  | nil => rfl
  | cons y ys =>
    obtain ⟨x, hx, _⟩ := hi.stack_reach y (by rw [hs]; simp)
    cases hx

theorem stronglyConnected_spec (hwf : g.WF) :
    (stronglyConnected g).flatten.Nodup ∧ (∀ v, v ∈ (stronglyConnected g).flatten ↔ v ∈ g.verts) ∧
    (∀ c ∈ stronglyConnected g, c ≠ []) ∧
    ∀ c ∈ stronglyConnected g, ∀ u ∈ c, ∀ v, (v ∈ c ↔ (Reach g u v ∧ Reach g v u)) := by
  obtain ⟨hi, _, hall⟩ := fold_top hwf g.verts initAcct (inv_init g) (fun v hv => hv)
  have hnil := hi.stack_nil
  refine ⟨hi.scc_nodup, ?_, fun c hc => (hi.scc_ok c hc).1, fun c hc => (hi.scc_ok c hc).2⟩
  intro v
  constructor
  · intro hv
    exact hi.vis_verts v ((hi.vis_iff v).mpr (Or.inr hv))
  · intro hv
    rcases (hi.vis_iff v).mp (hall v hv) with h | h
    · rw [hnil] at h; cases h
    · exact h

end Tarjan
end ArgMapper
