import ArgMapper.Proofs.Dijkstra
/-!
# Helper lemmas for C18: exactness of the distances (non-negative weights, no `int32` overflow)

The invariant has two phases.  While some reachable vertex is still unvisited the state is `Clean`
(the classical Dijkstra invariant, plus the bound `dist ≤ fsum visited` that rules out overflow).
As soon as a vertex is popped at distance `MaxInt32`, every reachable vertex has been visited
(`Done`); from then on relaxations may produce wrapped garbage, but only on unvisited —
hence unreachable — vertices, and `Base` (the facts about visited reachable vertices) is frozen.
-/
namespace ArgMapper.DijkstraProofs
open ArgMapper AGraph Dijkstra C18
variable {α : Type} [DecidableEq α]
variable {g : AGraph α} {src : α} {s : DSt α}

structure Hyp (g : AGraph α) (src : α) : Prop where
  wf : g.WF
  src_mem : src ∈ g.verts
  nonneg : NonNeg g
  total : wsum g.edges < maxInt32

theorem wrap32_small {x : Int} (h0 : -2147483648 ≤ x) (h1 : x ≤ 2147483647) : wrap32 x = x := by
  unfold wrap32; omega

theorem wrap32_id {x : Int} (h0 : 0 ≤ x) (h1 : x < maxInt32) : wrap32 x = x :=
  wrap32_small (by omega) (by unfold maxInt32 at h1; omega)

theorem pathFT_snoc {s a b : α} {w : Int} {p : List α} (hp : PathFromTo g s a p)
    (hw : g.weight a b = some w) :
    PathFromTo g s b (p ++ [b]) ∧ pathWeight g (p ++ [b]) = pathWeight g p + w := by
  obtain ⟨hh, hl, hi⟩ := hp
  refine ⟨⟨?_, by simp, isPath_snoc hl hi (hasEdge_iff_weight.2 ⟨w, hw⟩)⟩, ?_⟩
  · cases p with
    | nil => simp at hh
    | cons x xs => simpa using hh
  · rw [pathWeight_snoc hl, hw]; rfl

theorem reach_verts (h : Hyp g src) {y : α} (hr : Reach g src y) :
    y ∈ g.verts :=
  reach_mem_verts h.wf h.src_mem hr

def Link (g : AGraph α) (src : α) (s : DSt α) (x : α) : Prop :=
  (x = src ∧ s.prev x = none ∧ s.dist x = 0) ∨
  ∃ a w, s.prev x = some a ∧ a ∈ s.visited ∧ Reach g src a ∧ g.weight a x = some w ∧
    s.dist x = s.dist a + w

theorem link_transfer {s s' : DSt α} {x : α} (h : Link g src s x)
    (hd : s'.dist x = s.dist x) (hp : s'.prev x = s.prev x)
    (hv : ∀ a, a ∈ s.visited → a ∈ s'.visited ∧ s'.dist a = s.dist a) : Link g src s' x := by
  rcases h with ⟨h1, h2, h3⟩ | ⟨a, w, h1, h2, h3, h4, h5⟩
  · exact Or.inl ⟨h1, hp.trans h2, hd.trans h3⟩
  · exact Or.inr ⟨a, w, hp.trans h1, (hv a h2).1, h3, h4, by rw [hd, (hv a h2).2]; exact h5⟩

theorem Link.of_prev_some {x u : α} (h : Link g src s x)
    (hp : s.prev x = some u) :
    u ∈ s.visited ∧ Reach g src u ∧ ∃ w, g.weight u x = some w ∧ s.dist x = s.dist u + w := by
  rcases h with ⟨_, h2, _⟩ | ⟨a, w, h1, h2, h3, h4, h5⟩
  · rw [h2] at hp; cases hp
  · rw [h1] at hp; cases hp; exact ⟨h2, h3, w, h4, h5⟩

theorem Link.of_prev_none {x : α} (h : Link g src s x)
    (hp : s.prev x = none) : x = src ∧ s.dist x = 0 := by
  rcases h with ⟨h1, _, h3⟩ | ⟨a, w, h1, _⟩
  · exact ⟨h1, h3⟩
  · rw [hp] at h1; cases h1

def Base (g : AGraph α) (src : α) (s : DSt α) : Prop :=
  ∀ x, x ∈ s.visited → Reach g src x → IsDist g src x (s.dist x) ∧ Link g src s x

def Done (g : AGraph α) (src : α) (s : DSt α) : Prop := ∀ y, Reach g src y → y ∈ s.visited

structure Clean (g : AGraph α) (src : α) (s : DSt α) : Prop where
  nonneg : ∀ x, 0 ≤ s.dist x
  src0 : s.dist src = 0
  link : ∀ x, s.dist x < maxInt32 → Link g src s x
  bound : ∀ x, s.dist x = maxInt32 ∨ s.dist x ≤ fsum g s.visited
  edge : ∀ a, a ∈ s.visited → ∀ x w, g.weight a x = some w →
    (x ∉ s.visited → s.dist x ≤ s.dist a + w) ∧ s.dist a + w ≤ fsum g s.visited

theorem clean_init (g : AGraph α) (src : α) : Clean g src (init src) := by
  refine ⟨?_, by simp [init], ?_, ?_, ?_⟩
  · intro x; simp only [init]; split <;> simp [maxInt32]
  · intro x hx
    simp only [init] at hx
    split at hx
    · rename_i h; exact Or.inl ⟨h, rfl, by simp [init, h]⟩
    · omega
  · intro x
    by_cases h : x = src
    · right; simp [init, h, fsum_nil]
    · left; simp [init, h]
  · intro a ha; simp [init] at ha

/-- lower bound: a path that leaves the visited set passes an unvisited vertex of small `dist` -/
theorem lb_aux (h : Hyp g src) (hB : Base g src s)
    (hC : Clean g src s) (p : List α) (a y : α) (ha : a ∈ s.visited) (hra : Reach g src a)
    (hh : p.head? = some a) (hl : p.getLast? = some y) (hp : IsPath g p) (hy : y ∉ s.visited) :
    ∃ z, z ∈ g.verts ∧ z ∉ s.visited ∧ s.dist z ≤ s.dist a + pathWeight g p ∧
      s.dist z < maxInt32 := by
  induction p generalizing a with
  | nil => cases hh
  | cons x p ih =>
    cases hh
    cases p with
    | nil => cases hl; exact absurd ha hy
    | cons b rest =>
      obtain ⟨w, hw⟩ := hasEdge_iff_weight.1 hp.1
      have hpw : pathWeight g (x :: b :: rest) = w + pathWeight g (b :: rest) := by
        simp only [pathWeight, hw, Option.getD_some]
      by_cases hb : b ∈ s.visited
      · have hrb : Reach g src b := Reach.step hra hp.1
        obtain ⟨z, hz1, hz2, hz3, hz4⟩ := ih b hb hrb rfl (List.getLast?_cons_cons ▸ hl) hp.2
        refine ⟨z, hz1, hz2, ?_, hz4⟩
        obtain ⟨⟨pa, hpa, hpaw⟩, _⟩ := (hB x ha hra).1
        obtain ⟨hq1, hq2⟩ := pathFT_snoc hpa hw
        have := (hB b hb hrb).1.2 _ hq1
        omega
      · obtain ⟨he1, he2⟩ := hC.edge x ha b w hw
        have := he1 hb
        have := pathWeight_nonneg h.nonneg (b :: rest)
        have := fsum_le_total h.nonneg s.visited
        have := h.total
        exact ⟨b, (weight_verts h.wf hw).2, hb, by omega, by omega⟩

theorem lb (h : Hyp g src) (hB : Base g src s)
    (hC : Clean g src s) (p : List α) (y : α) (hp : PathFromTo g src y p) (hy : y ∉ s.visited) :
    ∃ z, z ∈ g.verts ∧ z ∉ s.visited ∧ s.dist z ≤ pathWeight g p ∧ s.dist z < maxInt32 := by
  by_cases hs : src ∈ s.visited
  · obtain ⟨z, h1, h2, h3, h4⟩ := lb_aux h hB hC p src y hs (Reach.refl _) hp.1 hp.2.1 hp.2.2 hy
    have := hC.src0
    exact ⟨z, h1, h2, by omega, h4⟩
  · have := hC.src0
    have := pathWeight_nonneg h.nonneg p
    exact ⟨src, h.src_mem, hs, by omega, by rw [hC.src0]; decide⟩

theorem step_done (u : α) (hB : Base g src s)
    (hD : Done g src s) : Base g src (pop g s u) ∧ Done g src (pop g s u) := by
  have hv := pop_visited g s u
  have hfro := (pop_spec g s u).frozen
  refine ⟨?_, fun y hy => hv ▸ List.mem_cons_of_mem _ (hD y hy)⟩
  intro x _ hr
  have hxv := hD x hr
  obtain ⟨h1, h2⟩ := hB x hxv hr
  have hx' := hfro x (List.mem_cons_of_mem _ hxv)
  refine ⟨hx'.1 ▸ h1, link_transfer h2 hx'.1 hx'.2 ?_⟩
  intro a ha
  exact ⟨hv ▸ List.mem_cons_of_mem _ ha, (hfro a (List.mem_cons_of_mem _ ha)).1⟩

theorem relax_exact {du w F F' T : Int} (h0 : 0 ≤ du) (hF : du ≤ F) (hw : 0 ≤ w)
    (hadd : F + w ≤ F') (hT : F' ≤ T) (hM : T < maxInt32) :
    wrap32 (du + wrap32 w) = du + w ∧ du + w ≤ F' := by
  rw [wrap32_id hw (by omega), wrap32_id (by omega) (by omega)]
  exact ⟨rfl, by omega⟩

theorem Link.reach {x : α} (h : Link g src s x) :
    Reach g src x := by
  rcases h with ⟨h1, _, _⟩ | ⟨a, w, _, _, h3, h4, _⟩
  · exact h1 ▸ Reach.refl _
  · exact Reach.step h3 (hasEdge_iff_weight.2 ⟨w, h4⟩)

theorem Clean.relax_out (h : Hyp g src) {u : α}
    (hC : Clean g src s) (huv : u ∉ s.visited) (hlt : s.dist u < maxInt32) {x : α} {w : Int}
    (hw : g.weight u x = some w) :
    wrap32 (s.dist u + wrap32 w) = s.dist u + w ∧ 0 ≤ w ∧
      s.dist u + w ≤ fsum g (u :: s.visited) :=
  have hw0 := weight_nonneg h.nonneg hw
  have := relax_exact (hC.nonneg u) ((hC.bound u).resolve_left (Int.ne_of_lt hlt)) hw0
    ((fsum_cons_aux h.nonneg huv).2 _ _ (weight_some_mem hw)) (fsum_le_total h.nonneg _) h.total
  ⟨this.1, hw0, this.2⟩

theorem pop_isDist (h : Hyp g src) {u : α}
    (hB : Base g src s) (hC : Clean g src s) (huv : u ∉ s.visited)
    (hmin : ∀ x ∈ g.verts, x ∈ s.visited ∨ s.dist u ≤ s.dist x) (hlt : s.dist u < maxInt32) :
    IsDist g src u (s.dist u) := by
  constructor
  · rcases hC.link u hlt with ⟨h1, _, h3⟩ | ⟨a, w, _, h2, h3, h4, h5⟩
    · exact ⟨[u], ⟨by simp [h1], rfl, trivial⟩, by simp [pathWeight, h3]⟩
    · obtain ⟨⟨pa, hpa, hpaw⟩, _⟩ := (hB a h2 h3).1
      obtain ⟨hq1, hq2⟩ := pathFT_snoc hpa h4
      exact ⟨pa ++ [u], hq1, by rw [hq2, hpaw, h5]⟩
  · intro p hp
    obtain ⟨z, hz1, hz2, hz3, _⟩ := lb h hB hC p u hp huv
    exact Int.le_trans ((hmin z hz1).resolve_left hz2) hz3

theorem step_clean (h : Hyp g src) {u : α}
    (hB : Base g src s) (hC : Clean g src s) (huv : u ∉ s.visited)
    (hmin : ∀ x ∈ g.verts, x ∈ s.visited ∨ s.dist u ≤ s.dist x) (hlt : s.dist u < maxInt32) :
    Base g src (pop g s u) ∧ Clean g src (pop g s u) := by
  obtain ⟨hv, hfro, hmono, hrel, hcases⟩ := pop_spec g s u
  generalize pop g s u = s' at hv hfro hmono hrel hcases
  have hlu := hC.link u hlt
  have hFF' := (fsum_cons_aux h.nonneg huv).1
  -- what the relaxations did, read without the wrap
  have hnew : ∀ x, (s'.dist x = s.dist x ∧ s'.prev x = s.prev x) ∨
      (s'.prev x = some u ∧ ∃ w, g.weight u x = some w ∧ s'.dist x = s.dist u + w ∧ 0 ≤ w ∧
        s.dist u + w ≤ fsum g (u :: s.visited) ∧ s'.dist x < s.dist x) := by
    intro x
    rcases hcases x with hc | ⟨_, hp, w, hw, hd, hl⟩
    · exact Or.inl hc
    · have hw' := (weight_iff_outsW h.wf).1 hw
      obtain ⟨e, hw0, hle⟩ := hC.relax_out h huv hlt hw'
      exact Or.inr ⟨hp, w, hw', hd.trans e, hw0, hle, hl⟩
  have hkeep : ∀ a, a ∈ s.visited → a ∈ s'.visited ∧ s'.dist a = s.dist a := fun a ha =>
    ⟨hv ▸ List.mem_cons_of_mem _ ha, (hfro a (List.mem_cons_of_mem _ ha)).1⟩
  have hfu := hfro u (List.mem_cons_self ..)
  refine ⟨?_, ?_, ?_, ?_, ?_, ?_⟩
  · -- Base
    intro x hx hr
    rw [hv] at hx
    have hx' := hfro x hx
    rcases List.mem_cons.1 hx with rfl | hxv
    · exact ⟨hx'.1 ▸ pop_isDist h hB hC huv hmin hlt, link_transfer hlu hx'.1 hx'.2 hkeep⟩
    · obtain ⟨h1, h2⟩ := hB x hxv hr
      exact ⟨hx'.1 ▸ h1, link_transfer h2 hx'.1 hx'.2 hkeep⟩
  · -- nonneg
    intro x
    rcases hnew x with ⟨hd, _⟩ | ⟨_, w, _, hd, hw0, _, _⟩
    · rw [hd]; exact hC.nonneg x
    · rw [hd]; exact Int.add_nonneg (hC.nonneg u) hw0
  · -- src0
    rcases hnew src with ⟨hd, _⟩ | ⟨_, w, _, hd, hw0, _, hl⟩
    · rw [hd]; exact hC.src0
    · rw [hd, hC.src0] at hl
      exact absurd hl (Int.not_lt.2 (Int.add_nonneg (hC.nonneg u) hw0))
  · -- link
    intro x hx
    rcases hnew x with ⟨hd, hp⟩ | ⟨hp, w, hw, hd, _, _, _⟩
    · exact link_transfer (hC.link x (hd ▸ hx)) hd hp hkeep
    · exact Or.inr ⟨u, w, hp, hv ▸ List.mem_cons_self .., hlu.reach, hw, by rw [hd, hfu.1]⟩
  · -- bound
    intro x
    rw [hv]
    rcases hnew x with ⟨hd, _⟩ | ⟨_, w, _, hd, _, hle, _⟩
    · exact (hC.bound x).imp hd.trans (fun hb => hd ▸ Int.le_trans hb hFF')
    · exact Or.inr (hd ▸ hle)
  · -- edge
    intro a ha x w hw
    rw [hv] at ha ⊢
    rcases List.mem_cons.1 ha with rfl | hav
    · obtain ⟨e, _, hle⟩ := hC.relax_out h huv hlt hw
      rw [hfu.1]
      exact ⟨fun hx => e ▸ hrel x w (weight_some_mem_outsW hw) hx, hle⟩
    · obtain ⟨he1, he2⟩ := hC.edge a hav x w hw
      rw [(hkeep a hav).2]
      exact ⟨fun hx => Int.le_trans (hmono x) (he1 (fun hxv => hx (List.mem_cons_of_mem _ hxv))),
        Int.le_trans he2 hFF'⟩

theorem step (h : Hyp g src) {u : α}
    (hB : Base g src s) (hI : Clean g src s ∨ Done g src s) (hl : LegalStep g s u) :
    Base g src (pop g s u) ∧ (Clean g src (pop g s u) ∨ Done g src (pop g s u)) := by
  obtain ⟨_, huv, hmin⟩ := hl
  rcases hI with hC | hD
  · by_cases hlt : s.dist u < maxInt32
    · obtain ⟨h1, h2⟩ := step_clean h hB hC huv hmin hlt
      exact ⟨h1, Or.inl h2⟩
    · have hD : Done g src s := by
        intro y hy
        apply Classical.byContradiction
        intro hyv
        obtain ⟨p, hp⟩ := path_of_reach hy
        obtain ⟨z, hz1, hz2, _, hz4⟩ := lb h hB hC p y hp hyv
        rcases hmin z hz1 with hz | hz
        · exact hyv (absurd hz hz2)
        · omega
      obtain ⟨h1, h2⟩ := step_done u hB hD
      exact ⟨h1, Or.inr h2⟩
  · obtain ⟨h1, h2⟩ := step_done u hB hD
    exact ⟨h1, Or.inr h2⟩

theorem base_run (h : Hyp g src) {pops : List α}
    (hl : legalFrom g (init src) pops = true) : Base g src (run g src pops) :=
  (legal_foldl_inv (fun s => Base g src s ∧ (Clean g src s ∨ Done g src s))
    (fun _ _ hI hl => step h hI.1 hI.2 hl) pops _
    ⟨fun x hx => by simp [init] at hx, Or.inl (clean_init g src)⟩ hl).1

end ArgMapper.DijkstraProofs
