import ArgMapper.Proofs.CompleteLegal
/-!
# Single-input converters: `reachTarget` reports nothing unsatisfied when R6 hops copy, or there is none
(helper lemmas for C05c)

With at most one input per converter the requirement of a converter met on a path is the vertex processed
just before it (or the root).  When an R6 hop (`value n t "" → value n t s`) copies the value
(`c.hopCopies = true`, the repair of finding F22) or the graph has no R6 edge, the walk invariant
`Complete.PrevP` says that vertex holds a value (`Complete.conv_ready`), so the nested search of the converter
finds nothing missing and returns at once (`Complete.reach_all_present'`): no planning, hence no unsatisfied argument.
The top-level search plans paths that avoid the target's vertex (it has no in-edge).

With R6 edges and hops that copy nothing (`c.hopCopies = false`) this is false: `CompleteLegalCE.unsat_reached`.
-/
namespace ArgMapper.CompleteLegal
open ArgMapper WalkEqs ReachSound ReachEqs Complete WalkPanic

variable {c : Ctx} {K : Prop} {Sup : Vtx → Prop} {tk : Nat}

theorem ready_no_unsat (hsri : c.skipRecordsInput = false) (n : Nat) (R : List Vtx)
    (k : Nat) (s : CallSt) (hall : ∀ y ∈ c.g.outs (.func k), (y == Vtx.root || takenAsIs c s y) = true) :
    ∀ e, (reach c false n R (.func k) s).1 = .error e → ¬ IsUnsat e := by
  rintro e h ⟨l, rfl⟩
  cases n with
  | zero => cases h
  | succ m =>
    rcases reach_all_present' c hsri false m R (.func k) s hall with ⟨w, hw⟩ | ⟨rest, hr⟩
    · rw [h] at hw; cases hw
    · rw [hr] at h; cases h

theorem single_reach_top (gf : Facts c K Sup) (sf : SFacts c tk) (m : Nat) (s : CallSt) (hs : SInv c False Sup s) :
    ∀ e, (reach c false (m + 1) [] (.func tk) s).1 = .error e → ¬ IsUnsat e := by
  have nu : ∀ {e : RErr}, (∀ l, e ≠ .unsat l) → ¬ IsUnsat e := fun h ⟨l, hl⟩ => h l hl
  have eo : ErrOK False K (fun e => ¬ Bad K e ∧ ¬ IsUnsat e) :=
    ⟨fun ε h => ⟨(errOK K).funcErr ε h, nu (by simp)⟩, fun h => ⟨(errOK K).missingArg h, nu (by simp)⟩,
     fun w => ⟨(errOK K).badOracle w, nu (by simp)⟩⟩
  refine fun e h => ((reach_step (Q := fun v => v ≠ .func tk) gf.toWalkFacts eo gf.toRoot ⟨hs, trivial⟩
    ?_ ?_ ?_).1 e h).2
  · intro k s' fin u hQ hs' hP he
    have hr := reach_spec gf m [.func tk] k s' hs'
    have hk : k ≠ tk := fun h => hQ (by rw [h])
    exact ⟨fun _ => ⟨not_bad_of_ne (by simp) (by simp) (by simp), nu (by simp)⟩,
      fun hk' f hf => gf.reqs hk' k f hf ⟨u, he⟩,
      fun e h => ⟨hr.1 e h, ready_no_unsat gf.sri m _ k s' (conv_ready sf hk hP he) e h⟩, hr.2⟩
  · intro item st ok hu
    rw [plan_unsat_top sf.tr gf.edgeOK sf.noTarget ok] at hu
    cases hu
  · exact fun item ok cp hcp =>
      validPath_avoids (ok.valid cp hcp) (missing_kind gf.edgeOK (ok.fst_missing hcp)) sf.noTarget

/-! ### the standard context -/

section
variable {e : TypeEnv} {b : Builder} {funcs : Nat → Option FuncDesc} {target : FuncDesc}

theorem sfacts_std (S : StdHyps b funcs target)
    (hsi : ∀ f ∈ b.convs.filterMap funcs, f.input.values.length ≤ 1)
    (hkey : ∀ f ∈ b.convs.filterMap funcs, f.key ≠ target.key)
    (beh : Nat → Nat → List PVal → BehOut) :
    SFacts (C01.stdCtx e b funcs target beh) target.key := by
  have C := ctxStd_call (e := e) (b := b) (funcs := funcs) (target := target) beh
  -- `noHop`: `C01.stdCtx` is the repaired context
  exact { tvn := rfl, tr := rfl, funcReq := C.funcReq S, funcRoot := C.funcRoot S,
          single := C.single hsi, noTarget := C.noTarget hkey, noHop := .inl rfl }

/-- **clause (a), full label language**: arbitrary cycles and R6 edges; every oracle, since an R6 hop copies the
value (repair of finding F22: `C01.stdCtx` has `hopCopies := true`) -/
theorem single_core (H : WalkPanic.Hyps e b funcs target) (beh : Nat → Nat → List PVal → BehOut)
    (hsi : ∀ f ∈ b.convs.filterMap funcs, f.input.values.length ≤ 1)
    (hkey : ∀ f ∈ b.convs.filterMap funcs, f.key ≠ target.key)
    (hsat : (callGraph {} e b funcs target false none).unsat = [])
    (fuel : Nat)
    (hfuel : ((callGraph {} e b funcs target false none).cg.g.verts.filter Vtx.isFunc).length + 1 ≤ fuel)
    (memo : List (Nat × Memo)) (orc : List OrcItem) :
    let r := callWith (C01.stdCtx e b funcs target beh) (callGraph {} e b funcs target false none) target fuel
              (initSt (callGraph {} e b funcs target false none).cg memo orc)
    (∃ res, r.1 = .ok res) ∨ (∃ ε, r.1 = .convErr ε) ∨ (∃ ε res, r.1 = .targetErr ε res) ∨ (∃ w, r.1 = .badOracle w) := by
  have hreqs := WalkPanic.reqs_of_kept beh hsat (WalkPanic.paramsKept_of_single H hsi)
  obtain ⟨m, rfl⟩ : ∃ m, fuel = m + 1 := ⟨fuel - 1, by omega⟩
  refine finish' H beh hsat hreqs (m + 1) hfuel memo orc ?_
  intro a h
  exact single_reach_top (WalkPanic.facts_std H beh True (fun _ => hreqs)) (sfacts_std H.toStd hsi hkey beh) m _
    ((ctxStd_call beh).initSt_sinv H.toStd.typed False memo (fun h => h.elim) orc) _ h ⟨a, rfl⟩

end

end ArgMapper.CompleteLegal
