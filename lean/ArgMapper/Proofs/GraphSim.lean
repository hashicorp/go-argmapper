import ArgMapper.Proofs.GraphSpecLemmas
/-!
# The simulation invariant between the heap-of-maps model and the specification (C19)
-/
set_option linter.unusedSectionVars false
namespace ArgMapper
namespace GraphSpec
variable {α : Type} [DecidableEq α]
open AGraph GraphImpl
variable {w : World α} {s : SpecWorld α}

/-! ### the invariant -/

def nones : GraphVal := ⟨none, none, none⟩

def gswap (b : Bool) (gv : GraphVal) : GraphVal := if b then ⟨gv.inn, gv.out, gv.hash⟩ else gv

def Shape (w : World α) (gv : GraphVal) : Prop :=
  gv = nones ∨ ∃ a b c, gv = ⟨some a, some b, some c⟩ ∧ a < w.adj.length ∧ b < w.adj.length ∧ a ≠ b ∧
    c < w.hashes.length

theorem Shape.mono {w w' : World α} {gv : GraphVal} (h : Shape w gv)
    (ha : w.adj.length ≤ w'.adj.length) (hh : w.hashes.length ≤ w'.hashes.length) : Shape w' gv :=
  h.imp id fun ⟨a, b, c, e, h1, h2, h3, h4⟩ =>
    ⟨a, b, c, e, Nat.lt_of_lt_of_le h1 ha, Nat.lt_of_lt_of_le h2 ha, h3, Nat.lt_of_lt_of_le h4 hh⟩

theorem Shape.gswap {gv : GraphVal} (h : Shape w gv) (b : Bool) : Shape w (gswap b gv) := by
  cases b
  · exact h
  · rcases h with rfl | ⟨a, b, c, rfl, h1, h2, h3, h4⟩
    · exact Or.inl rfl
    · exact Or.inr ⟨b, a, c, rfl, h2, h1, Ne.symm h3, h4⟩

def Disj (g1 g2 : GraphVal) : Prop :=
  (∀ k, (g1.out = some k ∨ g1.inn = some k) → ¬ (g2.out = some k ∨ g2.inn = some k)) ∧
  (∀ k, g1.hash = some k → g2.hash ≠ some k)

theorem Disj.symm {g1 g2 : GraphVal} (h : Disj g1 g2) : Disj g2 g1 :=
  ⟨fun k h2 h1 => h.1 k h1 h2, fun k h2 h1 => h.2 k h1 h2⟩

theorem Disj.nones_left (g : GraphVal) : Disj nones g :=
  ⟨fun _ hk => hk.elim nofun nofun, fun _ => nofun⟩

theorem Disj.fresh {g : GraphVal} (hg : Shape w g) {a b c : Nat}
    (ha : w.adj.length ≤ a) (hb : w.adj.length ≤ b) (hc : w.hashes.length ≤ c) :
    Disj ⟨some a, some b, some c⟩ g := by
  rcases hg with rfl | ⟨a', b', c', rfl, ha', hb', _, hc'⟩
  · exact (Disj.nones_left _).symm
  · refine ⟨fun k hk hk' => ?_, fun k hk hk' => ?_⟩ <;>
      simp only [Option.some.injEq] at hk hk' <;> omega

theorem gswap_gswap (b : Bool) (g : GraphVal) : gswap b (gswap b g) = g := by
  cases b <;> rfl

theorem gswap_eq_nones {b : Bool} {g : GraphVal} : gswap b g = nones ↔ g = nones :=
  ⟨fun h => by rw [← gswap_gswap b g, h]; cases b <;> rfl, fun h => by rw [h]; cases b <;> rfl⟩

theorem Disj.gswap_right {g1 g2 : GraphVal} (b : Bool) (h : Disj g1 g2) : Disj g1 (gswap b g2) := by
  cases b
  · exact h
  · exact ⟨fun k hk hk' => h.1 k hk hk'.symm, h.2⟩

/-- the weight function seen through a handle of orientation `fl` -/
def clsW (c : SClass α) (fl : Bool) (u v : α) : Option Int :=
  if fl then c.g.weight v u else c.g.weight u v

structure RepC (o i : AdjObj α) (hs : HashObj α) (c : SClass α) (fl : Bool) : Prop where
  out : Half o (· ∈ c.g.verts) (clsW c fl)
  inn : Half i (· ∈ c.g.verts) (fun u v => clsW c fl v u)
  hash : HRep hs (· ∈ c.g.verts) (aget c.tags)

theorem RepC.swap {o i : AdjObj α} {hs : HashObj α} {c : SClass α} {fl : Bool}
    (h : RepC o i hs c fl) : RepC i o hs c (!fl) := by
  refine ⟨?_, ?_, h.hash⟩
  · exact h.inn.congr (fun _ => Iff.rfl) (fun a b => by cases fl <;> simp [clsW])
  · exact h.out.congr (fun _ => Iff.rfl) (fun a b => by cases fl <;> simp [clsW])

theorem RepC.empty (fl : Bool) : RepC ([] : AdjObj α) [] [] SClass.empty fl := by
  refine ⟨?_, ?_, ?_⟩
  · exact Half.nil.congr (fun v => by simp [SClass.empty, AGraph.empty])
      (fun a b => by cases fl <;> simp [clsW, SClass.empty, weight_empty])
  · exact Half.nil.congr (fun v => by simp [SClass.empty, AGraph.empty])
      (fun a b => by cases fl <;> simp [clsW, SClass.empty, weight_empty])
  · refine ⟨by simp [akeys], by simp [SClass.empty], by simp [SClass.empty, AGraph.empty]⟩

theorem RepC.congr {o i : AdjObj α} {hs : HashObj α} {c c' : SClass α} {fl : Bool}
    (h : RepC o i hs c fl) (hV : ∀ v, v ∈ c'.g.verts ↔ v ∈ c.g.verts)
    (hW : ∀ a b, c'.g.weight a b = c.g.weight a b) (hT : ∀ v, aget c'.tags v = aget c.tags v) :
    RepC o i hs c' fl := by
  refine ⟨h.out.congr hV (fun a b => by cases fl <;> simp [clsW, hW]),
    h.inn.congr hV (fun a b => by cases fl <;> simp [clsW, hW]), ?_⟩
  exact ⟨h.hash.nd, fun v => by rw [hT]; exact h.hash.get v, fun v => by rw [hT, hV]; exact h.hash.dom v⟩

/-- the three objects behind `gv` represent the class `c` in the class's own orientation -/
def Rep (w : World α) (gv : GraphVal) (c : SClass α) : Prop :=
  RepC (w.getAdj gv.out) (w.getAdj gv.inn) (w.getHash gv.hash) c false

theorem rep_gswap {gv : GraphVal} {c : SClass α} (fl : Bool) :
    Rep w (gswap fl gv) c ↔
      RepC (w.getAdj gv.out) (w.getAdj gv.inn) (w.getHash gv.hash) c fl := by
  cases fl
  · exact Iff.rfl
  · exact ⟨fun h => h.swap, fun h => h.swap⟩

def SameObjs (w w' : World α) (gv : GraphVal) : Prop :=
  w'.getAdj gv.out = w.getAdj gv.out ∧ w'.getAdj gv.inn = w.getAdj gv.inn ∧
    w'.getHash gv.hash = w.getHash gv.hash

theorem SameObjs.gswap {w w' : World α} {gv : GraphVal} (h : SameObjs w w' gv) (b : Bool) :
    SameObjs w w' (gswap b gv) := by
  cases b
  · exact h
  · exact ⟨h.2.1, h.1, h.2.2⟩

theorem SameObjs.rep {w w' : World α} {gv : GraphVal} (h : SameObjs w w' gv) {c : SClass α}
    (hr : Rep w gv c) : Rep w' gv c := by
  unfold Rep
  rw [h.1, h.2.1, h.2.2]
  exact hr

theorem SameObjs.of_disj {w w' : World α} {g0 gv : GraphVal} (hd : Disj g0 gv)
    (hfa : ∀ k, g0.out ≠ some k → g0.inn ≠ some k → w'.adj.getD k [] = w.adj.getD k [])
    (hfh : ∀ k, g0.hash ≠ some k → w'.hashes.getD k [] = w.hashes.getD k []) :
    SameObjs w w' gv := by
  refine ⟨?_, ?_, ?_⟩
  · cases hx : gv.out with
    | none => rfl
    | some x => exact hfa x (fun e => hd.1 x (Or.inl e) (Or.inl hx)) (fun e => hd.1 x (Or.inr e) (Or.inl hx))
  · cases hx : gv.inn with
    | none => rfl
    | some x => exact hfa x (fun e => hd.1 x (Or.inl e) (Or.inr hx)) (fun e => hd.1 x (Or.inr e) (Or.inr hx))
  · cases hx : gv.hash with
    | none => rfl
    | some x => exact hfh x (fun e => hd.2 x e hx)

theorem SameObjs.of_append {gv : GraphVal} (hg : Shape w gv) (xa : List (AdjObj α))
    (xh : List (HashObj α)) (hs : List GraphVal) :
    SameObjs w { adj := w.adj ++ xa, hashes := w.hashes ++ xh, handles := hs } gv := by
  rcases hg with rfl | ⟨a, b, c, rfl, h1, h2, _, h4⟩
  · exact ⟨rfl, rfl, rfl⟩
  · exact ⟨getD_append_lt _ _ _ _ h1, getD_append_lt _ _ _ _ h2, getD_append_lt _ _ _ _ h4⟩

/-- the references of handle `h`, read in the orientation of its class -/
def canon (w : World α) (s : SpecWorld α) (h : Nat) : GraphVal := gswap (s.handle h).2 (w.handle h)

/-- Handles of one class refer to the same three objects, each in its orientation; handles of
different classes share nothing; a handle still uninitialised is alone in its class (`Reverse`
initialises before it shares). -/
structure Sim (w : World α) (s : SpecWorld α) : Prop where
  len : w.handles.length = s.handles.length
  cok : ∀ h, h < s.handles.length → (s.handle h).1 < s.classes.length
  shape : ∀ h, h < s.handles.length → Shape w (w.handle h)
  rep : ∀ h, h < s.handles.length → Rep w (canon w s h) (s.cls h)
  same : ∀ h1 h2, h1 < s.handles.length → h2 < s.handles.length →
    (s.handle h1).1 = (s.handle h2).1 → canon w s h1 = canon w s h2
  shared : ∀ h1 h2, h1 < s.handles.length → h2 < s.handles.length → h1 ≠ h2 →
    (s.handle h1).1 = (s.handle h2).1 → w.handle h1 ≠ nones
  diff : ∀ h1 h2, h1 < s.handles.length → h2 < s.handles.length →
    (s.handle h1).1 ≠ (s.handle h2).1 → Disj (w.handle h1) (w.handle h2)

theorem Sim.empty : Sim (World.empty : World α) SpecWorld.empty :=
  have no : ∀ {h : Nat} {p : Prop}, h < (SpecWorld.empty : SpecWorld α).handles.length → p :=
    fun h => absurd h (Nat.not_lt_zero _)
  ⟨rfl, fun _ => no, fun _ => no, fun _ => no, fun _ _ => no, fun _ _ => no, fun _ _ => no⟩

theorem Sim.repC (hs : Sim w s) {h : Nat} (hlt : h < s.handles.length) :
    RepC (w.getAdj (w.handle h).out) (w.getAdj (w.handle h).inn) (w.getHash (w.handle h).hash)
      (s.cls h) (s.handle h).2 :=
  (rep_gswap _).1 (hs.rep h hlt)

/-! ### frame lemma: replacing the objects of one handle and the class of that handle -/

theorem setCls_handle (s : SpecWorld α) (h k : Nat) (c : SClass α) : (s.setCls h c).handle k = s.handle k := rfl

theorem setCls_cls (s : SpecWorld α) (h k : Nat) (c : SClass α) (hc : (s.handle h).1 < s.classes.length) :
    (s.setCls h c).cls k = if (s.handle h).1 = (s.handle k).1 then c else s.cls k := by
  unfold SpecWorld.cls
  rw [setCls_handle]
  simp only [SpecWorld.setCls]
  rw [getD_set]
  simp [hc]

theorem Sim.update {w w' : World α} (hs : Sim w s) {h : Nat} (hlt : h < s.handles.length)
    (cl' : SClass α)
    (hh : w'.handles = w.handles) (hal : w'.adj.length = w.adj.length)
    (hhl : w'.hashes.length = w.hashes.length)
    (hfa : ∀ k, (w.handle h).out ≠ some k → (w.handle h).inn ≠ some k → w'.adj.getD k [] = w.adj.getD k [])
    (hfh : ∀ k, (w.handle h).hash ≠ some k → w'.hashes.getD k [] = w.hashes.getD k [])
    (hrep : RepC (w'.getAdj (w.handle h).out) (w'.getAdj (w.handle h).inn) (w'.getHash (w.handle h).hash)
      cl' (s.handle h).2) :
    Sim w' (s.setCls h cl') := by
  have hH : ∀ k, w'.handle k = w.handle k := fun k => by unfold World.handle; rw [hh]
  have hC : ∀ k, canon w' (s.setCls h cl') k = canon w s k := fun k => by unfold canon; rw [hH]; rfl
  refine ⟨hh ▸ hs.len, fun k hk => ?_, fun k hk => ?_, fun k hk => ?_, fun h1 h2 l1 l2 hc => ?_,
    fun h1 h2 l1 l2 hne hc => ?_, fun h1 h2 l1 l2 hc => ?_⟩
  · exact (List.length_set (as := s.classes)) ▸ hs.cok k hk
  · exact hH k ▸ (hs.shape k hk).mono (Nat.le_of_eq hal.symm) (Nat.le_of_eq hhl.symm)
  · rw [hC, setCls_cls _ _ _ _ (hs.cok h hlt)]
    split
    · next hcl =>
      rw [← hs.same h k hlt hk hcl]
      exact (rep_gswap _).2 hrep
    · next hcl =>
      exact (((SameObjs.of_disj (hs.diff h k hlt hk hcl) hfa hfh)).gswap _).rep (hs.rep k hk)
  · rw [hC, hC]; exact hs.same h1 h2 l1 l2 hc
  · rw [hH]; exact hs.shared h1 h2 l1 l2 hne hc
  · rw [hH, hH]; exact hs.diff h1 h2 l1 l2 hc

theorem Sim.inRange (hs : Sim w s) {h : Nat} (hlt : h < s.handles.length)
    {a b c : Nat} (hgv : w.handle h = ⟨some a, some b, some c⟩) :
    a < w.adj.length ∧ b < w.adj.length ∧ a ≠ b ∧ c < w.hashes.length := by
  rcases hs.shape h hlt with e | ⟨a', b', c', e, h1, h2, h3, h4⟩
  · rw [hgv] at e; cases e
  · rw [hgv] at e
    cases e
    exact ⟨h1, h2, h3, h4⟩

theorem Sim.write {w w' : World α} (hs : Sim w s) {h : Nat} (hlt : h < s.handles.length)
    {a b c : Nat} (hgv : w.handle h = ⟨some a, some b, some c⟩)
    {o i : AdjObj α} {t : HashObj α} {cl' : SClass α} (hrep : RepC o i t cl' (s.handle h).2)
    (hh : w'.handles = w.handles) (ha : w'.adj = (w.adj.set a o).set b i)
    (ht : w'.hashes = w.hashes.set c t) : Sim w' (s.setCls h cl') := by
  obtain ⟨hal, hbl, hab, hcl⟩ := hs.inRange hlt hgv
  refine hs.update hlt cl' hh (by simp [ha]) (by simp [ht]) ?_ ?_ ?_
  · rw [hgv, ha]
    intro k h1 h2
    rw [getD_set, getD_set, if_neg (fun e => h2 (by rw [e.1])), if_neg (fun e => h1 (by rw [e.1]))]
  · rw [hgv, ht]
    intro k h1
    rw [getD_set, if_neg (fun e => h1 (by rw [e.1]))]
  · rw [hgv]
    have hba : ¬ b = a := fun e => hab e.symm
    simp only [World.getAdj, World.getHash, ha, ht, getD_set, List.length_set, hal, hbl, hcl, and_self,
      if_true, hab, hba, false_and, if_false]
    exact hrep

/-! ### `init` -/

def initW (w : World α) (h : Nat) : World α :=
  { adj := w.adj ++ [[], []], hashes := w.hashes ++ [[]],
    handles := w.handles.set h ⟨some w.adj.length, some (w.adj.length + 1), some w.hashes.length⟩ }

theorem init_nones (w : World α) (h : Nat) (hh : w.handle h = nones) (hlt : h < w.handles.length) :
    init w h = initW w h := by
  unfold init initW
  simp only [hh, nones]
  simp [World.handle, List.getD_eq_getElem?_getD, hlt]

theorem init_some (w : World α) (h a b c : Nat) (hh : w.handle h = ⟨some a, some b, some c⟩) :
    init w h = w := by
  unfold init
  simp only [hh]

theorem Sim.init (hs : Sim w s) {h : Nat} (hlt : h < s.handles.length) :
    Sim (init w h) s ∧ ∃ a b c, (init w h).handle h = ⟨some a, some b, some c⟩ ∧ a ≠ b := by
  rcases hs.shape h hlt with e | ⟨a, b, c, e, h1, h2, h3, h4⟩
  · have hltw : h < w.handles.length := hs.len ▸ hlt
    rw [init_nones w h e hltw]
    have hH : ∀ k, (initW w h).handle k
          = if h = k then ⟨some w.adj.length, some (w.adj.length + 1), some w.hashes.length⟩
            else w.handle k := fun k => by
      simp only [World.handle, initW, getD_set, hltw, and_true]
    have hfresh : Shape (initW w h)
        ⟨some w.adj.length, some (w.adj.length + 1), some w.hashes.length⟩ :=
      Or.inr ⟨_, _, _, rfl, by simp [initW], by simp [initW], Nat.ne_of_lt (Nat.lt_succ_self _),
        by simp [initW]⟩
    have hdisj : ∀ k, k < s.handles.length → Disj
        ⟨some w.adj.length, some (w.adj.length + 1), some w.hashes.length⟩ (w.handle k) := fun k hk =>
      Disj.fresh (hs.shape k hk) (Nat.le_refl _) (Nat.le_succ _) (Nat.le_refl _)
    have hold : ∀ k, k < s.handles.length → h ≠ k →
        (initW w h).handle k = w.handle k ∧ canon (initW w h) s k = canon w s k := fun k hk hne =>
      ⟨by rw [hH, if_neg hne], by unfold canon; rw [hH, if_neg hne]⟩
    -- `h`, being uninitialised, is alone in its class
    have halone : ∀ k, k < s.handles.length → (s.handle h).1 = (s.handle k).1 → h = k :=
      fun k hk hc => Classical.byContradiction fun hne => hs.shared h k hlt hk hne hc e
    refine ⟨⟨?_, hs.cok, fun k hk => ?_, fun k hk => ?_, fun h1 h2 l1 l2 hc => ?_,
      fun h1 h2 l1 l2 hne hc => ?_, fun h1 h2 l1 l2 hc => ?_⟩,
      ⟨_, _, _, by rw [hH, if_pos rfl], Nat.ne_of_lt (Nat.lt_succ_self _)⟩⟩
    · simp [initW, hs.len]
    · rw [hH]
      split
      · exact hfresh
      · exact (hs.shape k hk).mono (List.length_append ▸ Nat.le_add_right _ _)
          (List.length_append ▸ Nat.le_add_right _ _)
    · by_cases hk2 : h = k
      · -- the fresh objects are empty, as were the missing ones
        subst hk2
        have := hs.repC hlt
        rw [e] at this
        unfold canon
        rw [hH, if_pos rfl, rep_gswap]
        simpa [nones, initW, World.getAdj, World.getHash, getD_append_len, getD_append_len_succ]
          using this
      · rw [(hold k hk hk2).2]
        exact ((SameObjs.of_append (hs.shape k hk) _ _ _).gswap _).rep (hs.rep k hk)
    · by_cases hne : h1 = h2
      · rw [hne]
      · have n1 : h ≠ h1 := fun e1 => hne (e1 ▸ halone h2 l2 (e1 ▸ hc))
        have n2 : h ≠ h2 := fun e2 => hne (e2 ▸ halone h1 l1 (e2 ▸ hc.symm)).symm
        rw [(hold h1 l1 n1).2, (hold h2 l2 n2).2]
        exact hs.same h1 h2 l1 l2 hc
    · have n1 : h ≠ h1 := fun e1 => hne (e1 ▸ halone h2 l2 (e1 ▸ hc))
      rw [(hold h1 l1 n1).1]
      exact hs.shared h1 h2 l1 l2 hne hc
    · rw [hH, hH]
      have n12 : ¬ (h = h1 ∧ h = h2) := fun e12 => hc (e12.1 ▸ e12.2 ▸ rfl)
      split <;> split
      · exact absurd ⟨‹_›, ‹_›⟩ n12
      · exact hdisj h2 l2
      · exact (hdisj h1 l1).symm
      · exact hs.diff h1 h2 l1 l2 hc
  · rw [init_some w h a b c e]
    exact ⟨hs, a, b, c, e, h3⟩

end GraphSpec
end ArgMapper
