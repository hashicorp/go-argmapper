import ArgMapper.Proofs.WalkPanic
import ArgMapper.Proofs.CompleteStatic
/-!
# The `Call` graph satisfies `WalkPanic.Facts` (helper lemmas for C06b, static part)

* `facts_std`: the shape facts of the pruned `Call` graph the walk invariants need (full label language),
  from `Complete.CtxStd`;
* `reqs_of_kept`: the requirement edges of a function whose vertex and parameter vertices survive pruning
  survive pruning;
* `core_items`: the three outcomes C06b excludes, for every oracle.
-/
namespace ArgMapper.WalkPanic
open ArgMapper Generated Complete

/-- the hypotheses of C06b about the scenario -/
structure Hyps (e : TypeEnv) (b : Builder) (funcs : Nat → Option FuncDesc) (target : FuncDesc) : Prop where
  trans : ImplTrans e
  cons : C01.FuncsConsistent (C01.allFuncs b funcs target)
  named : (b.named.map (·.1)).Nodup ∧ (b.namedSub.map (·.1)).Nodup ∧ ∀ p ∈ b.namedSub, p.1.2 ≠ ""
  typed : (∀ p ∈ b.typed, p.2.ty = p.1) ∧ ∀ p ∈ b.typedSub, p.2.ty = p.1.1
  wf : ∀ f ∈ C01.allFuncs b funcs target,
    (f.output.named.map (·.1)).Nodup ∧ (f.input.hasStruct = false → f.input.values = [])

section
variable {e : TypeEnv} {b : Builder} {funcs : Nat → Option FuncDesc} {target : FuncDesc}

theorem Hyps.toStd (H : Hyps e b funcs target) : StdHyps b funcs target :=
  ⟨H.cons, fun f hf => H.wf f (List.mem_cons_of_mem _ hf), H.typed.1, H.typed.2⟩

theorem facts_std (H : Hyps e b funcs target) (beh : Nat → Nat → List PVal → BehOut) (K : Prop)
    (hreqs : K → ∀ k f, (C01.stdCtx e b funcs target beh).funcOf k = some f →
      (∃ u, (C01.stdCtx e b funcs target beh).g.hasEdge (.func k) u = true) →
      ∀ v ∈ f.input.values, v.lab.vertex ∈ (C01.stdCtx e b funcs target beh).g.outs (.func k)) :
    Facts (C01.stdCtx e b funcs target beh) K (fun x => x ∈ Prune.inputsList b) := by
  have C := ctxStd_call (e := e) (b := b) (funcs := funcs) (target := target) beh
  exact
    { hN := fun h => h.elim, pub := rfl, mc := rfl, sri := rfl, trans := H.trans, noHop := .inl rfl,
      edgeOK := C.edgeOK, toRoot := C.toRoot, funcKey := C.funcKey, outTyped := C.outTyped H.toStd,
      reqs := hreqs }

end

/-! ### requirement edges survive when both ends survive -/

section
variable {e : TypeEnv} {b : Builder} {funcs : Nat → Option FuncDesc} {target : FuncDesc}

/-- `missingArg` needs a pruned parameter -/
theorem reqs_of_kept (beh : Nat → Nat → List PVal → BehOut)
    (hsat : (callGraph {} e b funcs target false none).unsat = [])
    (hkept : ∀ f ∈ b.convs.filterMap funcs,
      Vtx.func f.key ∈ (callGraph {} e b funcs target false none).cg.g.verts →
      ∀ v ∈ f.input.values, v.lab.vertex ∈ (callGraph {} e b funcs target false none).cg.g.verts) :
    ∀ k f, (C01.stdCtx e b funcs target beh).funcOf k = some f →
      (∃ u, (C01.stdCtx e b funcs target beh).g.hasEdge (.func k) u = true) →
      ∀ v ∈ f.input.values, v.lab.vertex ∈ (C01.stdCtx e b funcs target beh).g.outs (.func k) := by
  intro k f h ⟨u, hu⟩ v hv
  obtain ⟨hm, rfl⟩ := (ctxStd_call beh).funcOf_mem h
  rcases List.mem_cons.1 hm with rfl | hconv
  · exact params_kept hsat beh v hv
  · obtain ⟨fid, hfid, hf⟩ := List.mem_filterMap.1 hconv
    rw [ExactWins.stdCtx_g] at hu ⊢
    have hfk := (AGraph.hasEdge_verts (ExactWins.fin_wf e b funcs target) hu).1
    have hvk := hkept f hconv (by rw [callGraph_g_fin]; exact hfk) v hv
    rw [callGraph_g_fin] at hvk
    unfold ExactWins.fin at hfk hvk
    rw [ExactWins.prune_verts] at hfk hvk
    rw [AGraph.mem_outs]
    exact ExactWins.fin_hasEdge_of_kept e b funcs target
      (ExactWins.pre_conv_req_edge e b funcs target fid hfid f hf v hv) hfk.2 hvk.2

/-- `K` marks whether the requirement edges are known to have survived pruning -/
theorem core_items (H : Hyps e b funcs target) (beh : Nat → Nat → List PVal → BehOut) (K : Prop)
    (hreqs : K → (callGraph {} e b funcs target false none).unsat = [] →
      ∀ k f, (C01.stdCtx e b funcs target beh).funcOf k = some f →
        (∃ u, (C01.stdCtx e b funcs target beh).g.hasEdge (.func k) u = true) →
        ∀ v ∈ f.input.values, v.lab.vertex ∈ (C01.stdCtx e b funcs target beh).g.outs (.func k))
    (fuel : Nat) (memo : List (Nat × Memo)) (orc : List OrcItem) :
    let r := callWith (C01.stdCtx e b funcs target beh) (callGraph {} e b funcs target false none) target fuel
              (initSt (callGraph {} e b funcs target false none).cg memo orc)
    r.1 ≠ .panic .finalValue ∧ r.1 ≠ .panic .setNotAssignable ∧ (K → r.1 ≠ .missingArg) := by
  by_cases hsat : (callGraph {} e b funcs target false none).unsat = []
  · have gf := facts_std H beh K (fun hk => hreqs hk hsat)
    exact callWith_notBad gf _ target rfl (fun _ _ v hv => params_kept hsat beh v hv) fuel _
      ((ctxStd_call beh).initSt_sinv H.toStd.typed False memo (fun h => h.elim) orc)
  · rw [ReachEqs.callWith_graphUnsat _ target fuel _ hsat]
    exact ⟨by simp, by simp, fun _ => by simp⟩

end

/-! ### single-input converters keep their parameter -/

section
variable {e : TypeEnv} {b : Builder} {funcs : Nat → Option FuncDesc} {target : FuncDesc}

/-- a converter with at most one input whose vertex survives pruning keeps its parameter vertex: the
vertex was reached through that parameter (or through the root, and then there is no parameter) -/
theorem paramsKept_of_single (H : Hyps e b funcs target)
    (hsi : ∀ f ∈ b.convs.filterMap funcs, f.input.values.length ≤ 1) :
    ∀ f ∈ b.convs.filterMap funcs,
      Vtx.func f.key ∈ (callGraph {} e b funcs target false none).cg.g.verts →
      ∀ v ∈ f.input.values, v.lab.vertex ∈ (callGraph {} e b funcs target false none).cg.g.verts := by
  intro f hf hfv v hv
  rw [callGraph_g_fin] at hfv ⊢
  have hfa : f ∈ C01.allFuncs b funcs target := List.mem_cons_of_mem _ hf
  have hwf := ExactWins.pre_wf e b funcs target
  unfold ExactWins.fin at hfv ⊢
  rw [ExactWins.prune_verts] at hfv ⊢
  obtain ⟨u, hku, hge⟩ := ExactWins.kept_pred _ hwf (ExactWins.pre_root e b funcs target) _ _ hfv.2 (by simp)
  obtain ⟨w, hw⟩ := AGraph.hasEdge_iff_weight.1 hge
  have hum := (AGraph.weight_verts hwf hw).2
  rw [ExactWins.pre_eq_lastV] at hw
  obtain ⟨f', hf', hk', hu⟩ := gen_from_func (fun _ => Prune.inputsList_kind) (lastV_weight _ _ _ _ _ _ _ hw)
  rw [(H.cons.1 f' hf' f hfa hk').1] at hu
  rcases hu with ⟨_, hemp⟩ | ⟨v', hv', rfl⟩
  · -- reached through the root: the function has no input at all
    rw [values_nil_of_empty (H.wf f hfa).2 hemp] at hv
    cases hv
  · cases eq_of_length_le_one (hsi f hf) hv' hv
    exact ⟨hum, hku⟩

end

end ArgMapper.WalkPanic
