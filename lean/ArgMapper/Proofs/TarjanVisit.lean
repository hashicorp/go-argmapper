import ArgMapper.Proofs.TarjanFold
/-!
# Tarjan's SCC algorithm: the contract of `sccVisit`

After the loop over the successors of `x`, either `x` stays on the stack (its low-link is smaller than
its index) or the stack is popped down to `x` and the popped vertices are exactly the strongly
connected component of `x`.
-/
namespace ArgMapper
namespace Tarjan
open AGraph Traverse TraverseReach
variable {α : Type} [DecidableEq α]
variable {g : AGraph α} {n : Nat} {x : α} {a a' : SccAcct α} {gr : List α} {m : Nat}

/-- facts available once all successors of `x` have been processed -/
structure Done (g : AGraph α) (x : α) (a : SccAcct α) (gr : List α) (a' : SccAcct α) (m : Nat)
    (s : List α) : Prop where
  hs : a'.stack = s ++ x :: a.stack
  idx_x : idxOf a' x = a.next
  above : ∀ y ∈ s, idxOf a' x < idxOf a' y
  below : ∀ y ∈ a.stack, idxOf a' y < idxOf a' x
  x_notgr : x ∉ gr
  closed : ∀ p y, g.hasEdge p y = true → idxOf a' p ≠ 0 → p ∉ gr → idxOf a' y ≠ 0
  to_x : ∀ y, y ∈ s ∨ y = x → Reach g y x
  from_x : ∀ y, y ∈ s ∨ y = x → Reach g x y
  ext : Ext a a'
  edge_old : ∀ p, p ∈ s ∨ p = x → ∀ y, g.hasEdge p y = true → y ∈ a.stack → m ≤ idxOf a' y

theorem done_of_fold (hp : Pre g gr (n + 1) x a)
    (F : FoldInv g n x a gr (g.outs x) (a', m)) : ∃ s, Done g x a gr a' m s := by
  obtain ⟨s, hs⟩ := F.ext.stack
  change a'.stack = s ++ x :: a.stack at hs
  have hI : Inv g (x :: gr) a' := F.inv
  have hpos := hp.inv.next_pos
  have hidx : idxOf a' x = a.next := by
    rw [F.ext.idx_pres x (by rw [idxOf_push_self]; exact Nat.ne_of_gt hpos), idxOf_push_self]
  have hsorted := hI.sorted
  have hnd := hI.stack_nodup
  rw [hs] at hnd
  rw [hs, List.pairwise_append, List.pairwise_cons] at hsorted
  have hxs : x ∉ a.stack := fun h => hp.inv.stack_vis h hp.white
  have hmem : ∀ y, y ∈ s ∨ y = x → y ∈ a'.stack := fun y hy => hs ▸ hy.elim
    (List.mem_append_left _) (fun h => List.mem_append_right _ (h ▸ List.mem_cons_self))
  have habove : ∀ y ∈ s, idxOf a' x < idxOf a' y := fun y hy =>
    hsorted.2.2 y hy x List.mem_cons_self
  refine ⟨s, hs, hidx, habove, fun y hy => hsorted.2.1.1 y hy,
    fun h => hxs (hp.inv.gray_stack x h), ?_, ?_, ?_, (ext_push hpos hp.white).trans F.ext, ?_⟩
  · intro p y he hpv hpg
    by_cases hpx : p = x
    · exact F.done_vis y (mem_outs.mpr (hpx ▸ he))
    · exact hI.closed p y he hpv (fun h => (List.mem_cons.1 h).elim hpx hpg)
  · intro y hy
    obtain ⟨z, hz, _, hr⟩ := hI.stack_reach y (hmem y hy)
    rcases List.mem_cons.mp hz with rfl | hz
    · exact hr
    · exact reach_trans hr (hp.access z hz)
  · intro y hy
    refine hI.gray_reach x List.mem_cons_self y (hmem y hy) ?_
    rcases hy with h | rfl
    · exact Nat.le_of_lt (habove y h)
    · exact Nat.le_refl _
  · intro p hp' y he hya
    rcases hp' with h | rfl
    · exact F.xedge p (hmem p (Or.inl h)) (fun hc => (List.nodup_append.1 hnd).2.2 p h p hc rfl)
        y hya he
    · exact F.done_edge y (mem_outs.mpr he) hya

/-! ## `x` stays on the stack -/

theorem post_keep (hp : Pre g gr (n + 1) x a)
    (F : FoldInv g n x a gr (g.outs x) (a', m)) (hne : a.next ≠ m) : Post g gr x a (a', m) := by
  obtain ⟨s, D⟩ := done_of_fold hp F
  have hI : Inv g (x :: gr) a' := F.inv
  have hlt : m < a.next := Nat.lt_of_le_of_ne F.le (Ne.symm hne)
  have hinv : Inv g gr a' := by
    refine ⟨hI.next_pos, hI.idx_lt, hI.vis_verts, hI.vis_iff, hI.disj, hI.scc_nodup, hI.sorted,
      fun y hy => D.ext.stack_mem (hp.inv.gray_stack y hy), D.closed,
      fun z hz => hI.gray_reach z (List.mem_cons_of_mem _ hz), fun y hy => ?_, hI.scc_ok⟩
    -- a stack vertex whose gray witness was `x` goes on through the link of `x` to an older one
    obtain ⟨y0, hy0, hm, hr0⟩ : ∃ y ∈ a'.stack, m = idxOf a' y ∧ Reach g x y := F.reach
    obtain ⟨z, hz, hzle, hrz⟩ := hI.stack_reach y hy
    rcases List.mem_cons.mp hz with rfl | hz
    · obtain ⟨z0, hz0, hz0le, hrz0⟩ := hI.stack_reach y0 hy0
      rw [D.idx_x] at hzle
      rcases List.mem_cons.mp hz0 with rfl | hz0
      · rw [D.idx_x] at hz0le; omega
      · exact ⟨z0, hz0, by omega, reach_trans hrz (reach_trans hr0 hrz0)⟩
    · exact ⟨z, hz, hzle, hrz⟩
  refine ⟨hinv, D.ext, D.idx_x, fun _ => F.reach, fun p hps hpn y hya he => ?_⟩
  have hps : p ∈ s ++ x :: a.stack := D.hs ▸ hps
  exact D.edge_old p ((List.mem_append.1 hps).imp_right fun h =>
    (List.mem_cons.1 h).resolve_right hpn) y he hya

/-! ## the component of `x` is popped -/

theorem cycle_closed (S : α → Prop) (hx : S x)
    (hstep : ∀ w' w, S w' → g.hasEdge w' w = true → Reach g w x → S w) :
    ∀ w, Reach g x w → Reach g w x → S w := by
  intro w h
  induction h with
  | refl => intro _; exact hx
  | step _ he ih =>
    intro hwx
    exact hstep _ _ (ih (reach_trans (reach_edge he) hwx)) he hwx

/-- Popping the segment `comp` off the stack into a component of its own while the gray list
shrinks from `gr'` to `gr`.  The fields that speak of the stack, the components and the indices
carry over; what is asked for is what speaks of gray vertices, and that `comp` is a component. -/
theorem Inv.pop {gr gr' : List α} {comp rest : List α}
    (h : Inv g gr' a) (hs : a.stack = comp ++ rest) (hsub : ∀ z ∈ gr, z ∈ gr')
    (hgs : ∀ z ∈ gr, z ∈ rest)
    (hcl : ∀ p y, g.hasEdge p y = true → idxOf a p ≠ 0 → p ∉ gr → idxOf a y ≠ 0)
    (hsr : ∀ y ∈ rest, ∃ z ∈ gr, idxOf a z ≤ idxOf a y ∧ Reach g y z)
    (hok : comp ≠ [] ∧ ∀ u ∈ comp, ∀ v, v ∈ comp ↔ (Reach g u v ∧ Reach g v u)) :
    Inv g gr (popped a rest comp) := by
  have hnd := h.stack_nodup
  have hsorted := h.sorted
  rw [hs] at hnd hsorted
  have hnd := List.nodup_append.1 hnd
  have hmem : ∀ y, y ∈ a.stack ↔ y ∈ comp ∨ y ∈ rest := fun y => by rw [hs, List.mem_append]
  have hfl : (popped a rest comp).scc.flatten = a.scc.flatten ++ comp := by
    rw [popped_scc, List.flatten_append, List.flatten_singleton]
  refine ⟨h.next_pos, h.idx_lt, h.vis_verts, fun y => ?_, fun y hy hc => ?_, ?_,
    (List.pairwise_append.1 hsorted).2.1, hgs, hcl,
    fun z hz y hy => h.gray_reach z (hsub z hz) y ((hmem y).2 (Or.inr hy)), hsr, fun c hc => ?_⟩
  · rw [idxOf_popped, h.vis_iff y, hmem, hfl, List.mem_append, popped_stack, or_right_comm,
      or_comm, or_comm (a := y ∈ comp)]
  · rcases List.mem_append.1 (hfl ▸ hc) with hc | hc
    · exact h.disj y ((hmem y).2 (Or.inr hy)) hc
    · exact hnd.2.2 y hc y hy rfl
  · rw [hfl, List.nodup_append]
    exact ⟨h.scc_nodup, hnd.1, fun y hy z hz e => h.disj z ((hmem z).2 (Or.inl hz)) (e ▸ hy)⟩
  · rcases List.mem_append.1 hc with hc | hc
    · exact h.scc_ok c hc
    · exact List.mem_singleton.1 hc ▸ hok

theorem Done.comp_iff {a a' : SccAcct α} {gr s : List α}
    (D : Done g x a gr a' m s) (hI : Inv g (x :: gr) a') (hgs : ∀ z ∈ gr, z ∈ a.stack)
    (heq : a.next = m) (w : α) : w ∈ s ∨ w = x ↔ (Reach g x w ∧ Reach g w x) := by
  refine ⟨fun hw => ⟨D.from_x w hw, D.to_x w hw⟩, fun ⟨hxw, hwx⟩ => ?_⟩
  have hstack : ∀ y, y ∈ a'.stack ↔ (y ∈ s ∨ y = x) ∨ y ∈ a.stack := fun y => by
    rw [D.hs, List.mem_append, List.mem_cons, or_assoc]
  refine cycle_closed (fun w => w ∈ s ∨ w = x) (Or.inr rfl) (fun w' w hw' he hwx => ?_) w hxw hwx
  -- `w'` is not gray, so its successor `w` has been visited: it sits in the segment, or further
  -- down the stack (but then the link of `x` would be smaller), or in an earlier component (but
  -- that one would hold `x` too)
  have hw'g : w' ∉ gr := fun hg => by
    have h1 := D.below w' (hgs w' hg)
    have h2 : idxOf a' x ≤ idxOf a' w' := hw'.elim (fun h => Nat.le_of_lt (D.above w' h))
      (fun h => h ▸ Nat.le_refl _)
    omega
  have hwv : idxOf a' w ≠ 0 :=
    D.closed w' w he (hI.stack_vis ((hstack w').2 (Or.inl hw'))) hw'g
  rcases (hI.vis_iff w).mp hwv with hws | hwc
  · rcases (hstack w).1 hws with h | h
    · exact h
    · have h1 := D.edge_old w' hw' w he h
      have h2 := D.below w h
      have h3 := D.idx_x
      omega
  · obtain ⟨c, hc, hwc'⟩ := List.mem_flatten.mp hwc
    have hxc : x ∈ c :=
      ((hI.scc_ok c hc).2 w hwc' x).mpr ⟨hwx, reach_trans (D.from_x w' hw') (reach_edge he)⟩
    exact absurd (List.mem_flatten.mpr ⟨c, hc, hxc⟩)
      (hI.disj x ((hstack x).2 (Or.inl (Or.inr rfl))))

theorem post_pop (hp : Pre g gr (n + 1) x a)
    (F : FoldInv g n x a gr (g.outs x) (a', m)) (heq : a.next = m) :
    Post g gr x a (popped a' (popTo x a'.stack []).1 (popTo x a'.stack []).2, m) := by
  obtain ⟨s, D⟩ := done_of_fold hp F
  have hI : Inv g (x :: gr) a' := F.inv
  have hsplit : a'.stack = (s ++ [x]) ++ a.stack := by rw [D.hs, List.append_assoc]; rfl
  have hpop : popTo x a'.stack [] = (a.stack, s ++ [x]) := by
    rw [D.hs, popTo_append x s a.stack [] (fun h => Nat.lt_irrefl _ (D.above x h)), List.nil_append]
  have hor : ∀ y, y ∈ s ++ [x] ↔ y ∈ s ∨ y = x := fun y => by
    rw [List.mem_append, List.mem_singleton]
  rw [hpop]
  obtain ⟨cs, hcs⟩ := D.ext.scc
  refine ⟨?_, ?_, D.idx_x, fun h => absurd (heq ▸ h) (Nat.lt_irrefl _),
    fun p hps hpn => absurd hps hpn⟩
  · refine hI.pop hsplit (fun z => List.mem_cons_of_mem _) hp.inv.gray_stack D.closed
      (fun y hy => ?_) ⟨List.append_ne_nil_of_right_ne_nil _ (List.cons_ne_nil _ _), fun u hu v => ?_⟩
    · -- the gray witness of a vertex below `x` is not `x`
      obtain ⟨z, hz, hzle, hrz⟩ := hI.stack_reach y (D.ext.stack_mem hy)
      rcases List.mem_cons.mp hz with rfl | hz
      · exact absurd (D.below y hy) (Nat.not_lt.2 hzle)
      · exact ⟨z, hz, hzle, hrz⟩
    · have hu := (D.comp_iff hI hp.inv.gray_stack heq u).1 ((hor u).1 hu)
      rw [hor, D.comp_iff hI hp.inv.gray_stack heq v]
      exact ⟨fun hv => ⟨reach_trans hu.2 hv.1, reach_trans hv.2 hu.1⟩,
        fun hv => ⟨reach_trans hu.1 hv.1, reach_trans hv.2 hu.2⟩⟩
  · refine ⟨⟨[], rfl⟩, D.ext.idx_pres, D.ext.idx_new, D.ext.next_le, ⟨cs ++ [s ++ [x]], ?_⟩⟩
    rw [popped_scc, hcs, List.append_assoc]

/-! ## the contract -/

theorem visit_spec (hwf : g.WF) : ∀ n, RecSpec g n := by
  intro n
  induction n with
  | zero =>
    intro gr v a hp
    exact absurd hp.fuel (Nat.not_lt_zero _)
  | succ n ih =>
    intro gr v a hp
    have F := foldInv_outs hwf hp ih
    rw [sccVisit_succ]
    generalize (g.outs v).foldl (sccEdge (sccVisit g n)) (push v a, a.next) = r at F
    obtain ⟨a', m⟩ := r
    by_cases h : a.next = m
    · rw [if_pos h]
      exact post_pop hp F h
    · rw [if_neg h]
      exact post_keep hp F h

end Tarjan
end ArgMapper
