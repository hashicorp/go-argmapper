import ArgMapper.Model.Hist
import ArgMapper.Proofs.ReachEqs
import ArgMapper.Proofs.ExecEqs
/-!
# Predicates on (memo table, log) that survive a call

A call does two things to the run-once cells and the execution log: an execution of a function of the
context (or of the target) that found no cell of its own appends one log entry and, for a run-once
function, stores that very result in the function's cell; `outputValues` marks a cell as unwrapped.
`Closed c target G` says that `G` survives both.  Every such predicate survives `callWith`
(`callWith_closed`) and, seen from a log that began earlier, a whole history (`runHist_closed`).
-/
namespace ArgMapper.MemoLog
open ArgMapper ArgMapper.WalkEqs ArgMapper.ReachEqs ArgMapper.ExecEqs

structure Closed (c : Ctx) (target : FuncDesc) (G : List (Nat × Memo) → List ExecEv → Prop) : Prop where
  exec : ∀ f : FuncDesc, (f = target ∨ ∃ k, c.funcOf k = some f) → ∀ memo log n args,
    (if f.once then mapGet memo f.id else none) = none → G memo log →
    G (if f.once then mapSet memo f.id { res := c.beh f.id n args, unwrapped := false } else memo)
      (log ++ [{ fid := f.id, nth := n, args := args, params := f.input.labels, res := c.beh f.id n args }])
  unwrap : ∀ k memo log, G memo log →
    G (memo.map (fun p => if p.1 = k then (p.1, { p.2 with unwrapped := true }) else p)) log

variable {c : Ctx} {target : FuncDesc} {G : List (Nat × Memo) → List ExecEv → Prop}

def On (G : List (Nat × Memo) → List ExecEv → Prop) (s : CallSt) : Prop := G s.memo s.log

theorem callDirect_on (hG : Closed c target G) {f : FuncDesc} (hf : f = target ∨ ∃ k, c.funcOf k = some f)
    {am : ArgMap} {s s' : CallSt} {r : Except RErr (BehOut × Bool)} (heq : callDirect c f am s = (r, s'))
    (h : On G s) : On G s' := by
  have hstep := callDirect_cases c f am s
  rw [heq] at hstep
  cases hstep with
  | hit _ => exact h
  | argErr _ _ => exact h
  | exec hm _ => exact hG.exec f hf s.memo s.log _ _ hm h

theorem outputValues_on (hG : Closed c target G) {f : FuncDesc} {r : BehOut} {u : Bool} {s s' : CallSt}
    (h : outputValues c f r u s = .ok s') (hs : On G s) : On G s' := by
  obtain ⟨st, memo, rfl, rfl | rfl⟩ := outputValues_ok h
  · exact hs
  · exact hG.unwrap f.id _ _ hs

theorem walkStep_on (hG : Closed c target G)
    (rec : Vtx → CallSt → Except RErr ArgMap × CallSt) (hrec : ∀ v s, On G s → On G (rec v s).2)
    (w : WalkSt) (v : Vtx) (h : On G w.s) : On G (walkStep c rec w v).s := by
  cases herr : w.err with
  | some e => rw [walkStep_err c rec herr]; exact h
  | none =>
    rcases walkStep_data c rec herr v with ⟨st, l, fin, hd⟩ | ⟨k, rfl⟩
    · rw [hd]; exact h
    · have hr := hrec (Vtx.func k) w.s h
      have hstep := walkStep_func c rec herr k
      generalize walkStep c rec w (.func k) = w' at hstep ⊢
      cases hstep with
      | unknown hf => exact h
      | recErr hf hrs => rw [hrs] at hr; exact hr
      | cdErr hf hrs hcs => rw [hrs] at hr; exact callDirect_on hG (.inr ⟨k, hf⟩) hcs hr
      | funcErr hf hrs hcs _ => rw [hrs] at hr; exact callDirect_on hG (.inr ⟨k, hf⟩) hcs hr
      | outErr hf hrs hcs _ _ => rw [hrs] at hr; exact callDirect_on hG (.inr ⟨k, hf⟩) hcs hr
      | ok hf hrs hcs _ hov =>
        rw [hrs] at hr
        exact outputValues_on hG hov (callDirect_on hG (.inr ⟨k, hf⟩) hcs hr)

theorem reach_on (hG : Closed c target G)
    (redefine : Bool) (fuel : Nat) (reaching : List Vtx) (tv : Vtx) (s : CallSt) (h : On G s) :
    On G (reach c redefine fuel reaching tv s).2 := by
  induction fuel generalizing reaching tv s with
  | zero => exact h
  | succ n ih =>
    obtain ⟨ins, h1⟩ := afterSkip_frame c s tv
    have hplan : ∀ item rest, On G (plan c redefine reaching tv item { afterSkip c s tv with orc := rest }).s :=
      fun item rest => by
        obtain ⟨st, ins', h2⟩ := plan_frame c redefine reaching tv item { afterSkip c s tv with orc := rest }
        rw [h2, h1]; exact h
    have hstep := reach_succ c redefine n reaching tv s
    generalize reach c redefine (n + 1) reaching tv s = r at hstep ⊢
    cases hstep with
    | badOracle w orc => rw [h1]; exact h
    | nothingMissing item rest hi hm => rw [h1]; exact h
    | unsat item rest hi ok hu => exact hplan item rest
    | walk item rest hi ok hu =>
      exact walkPaths_inv (On G) (fun w v => walkStep_on hG _ (fun v st hst => ih _ v st hst) w v) _ _ _
        (hplan item rest)

theorem callWith_closed (hG : Closed c target G) (cgr : CallGraphResult) (fuel : Nat) (s0 : CallSt)
    (h : On G s0) : On G (callWith c cgr target fuel s0).2 := by
  have hr := reach_on hG false fuel [] cgr.target s0 h
  have hstep := callWith_cases c cgr target fuel s0
  generalize callWith c cgr target fuel s0 = r at hstep ⊢
  cases hstep with
  | graphUnsat _ => exact h
  | reachErr _ hrs => rw [hrs] at hr; exact hr
  | directErr _ hrs hcs => rw [hrs] at hr; exact callDirect_on hG (.inl rfl) hcs hr
  | executed _ hrs hcs => rw [hrs] at hr; exact callDirect_on hG (.inl rfl) hcs hr

/-! ### histories -/

theorem Closed.shift (hG : Closed c target G) (pre : List ExecEv) :
    Closed c target (fun memo log => G memo (pre ++ log)) where
  exec f hf memo log n args hmiss h := by
    rw [← List.append_assoc]; exact hG.exec f hf memo _ n args hmiss h
  unwrap k memo log h := hG.unwrap k memo _ h

/-- every execution of every `Call` of a history, in order (Redefines execute nothing) -/
def obsLog (obs : List HistObs) : List ExecEv :=
  obs.flatMap (fun o => match o with | .call _ l => l | .redef _ => [])

def ClosedOps (G : List (Nat × Memo) → List ExecEv → Prop) (ops : List HistOp) : Prop :=
  ∀ op ∈ ops, match op with
    | .call c _ t _ => Closed c t G
    | .redefine .. => True

theorem runHist_closed (fuel : Nat) (ops : List HistOp) (hops : ClosedOps G ops) (h : HistState)
    (pre : List ExecEv) (hg : G h.memo pre) :
    G (runHist fuel h ops).1.memo (pre ++ obsLog (runHist fuel h ops).2) := by
  induction ops generalizing h pre with
  | nil => simpa [runHist, obsLog] using hg
  | cons op rest ih =>
    have hrest : ClosedOps G rest := fun o ho => hops o (List.mem_cons_of_mem _ ho)
    have hop := hops op List.mem_cons_self
    cases op with
    | call c cgr t orc =>
      have h1 : G (histCall c cgr t fuel h orc).2.memo (pre ++ (histCall c cgr t fuel h orc).2.log) :=
        callWith_closed (hop.shift pre) cgr fuel (h.start cgr.cg orc)
          (by simpa [On, HistState.start, initSt] using hg)
      have := ih hrest (HistState.after (histCall c cgr t fuel h orc).2) _ h1
      simpa [runHist, histStep, obsLog, List.append_assoc] using this
    | redefine c cgr t fo orc =>
      have := ih hrest h pre hg
      simpa [runHist, histStep, obsLog] using this

end ArgMapper.MemoLog
