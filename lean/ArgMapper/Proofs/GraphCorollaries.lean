import ArgMapper.Props.C19
/-!
# Helper lemmas for `Props/C19b.lean`: one more `specStep` after a history
-/
namespace ArgMapper.C19
open ArgMapper AGraph GraphSpec GraphImpl
variable {α : Type} [DecidableEq α]

theorem specRun_snoc (ops : List (GOp α)) (x : GOp α) : specRun (ops ++ [x]) = specStep (specRun ops) x := by
  simp [specRun, List.foldl_append]

theorem handlesOk_append (ops ops' : List (GOp α)) : ∀ s, HandlesOk s (ops ++ ops') →
    HandlesOk s ops ∧ HandlesOk (ops.foldl specStep s) ops' := by
  induction ops with
  | nil => intro s h; exact ⟨trivial, h⟩
  | cons op ops ih =>
    intro s h
    have := ih _ h.2
    exact ⟨⟨h.1, this.1⟩, this.2⟩

theorem respects_prefix (ops ops' : List (GOp α)) (hr : Respects (ops ++ ops')) : Respects ops := by
  unfold Respects at hr ⊢
  have : specRun (ops ++ ops') = ops'.foldl specStep (specRun ops) := by
    simp [specRun, List.foldl_append]
  rw [this] at hr
  exact noPois_of_foldl ops' hr

theorem obs_snoc (ops : List (GOp α)) (x : GOp α) (hh : HandlesOk SpecWorld.empty (ops ++ [x]))
    (hr : Respects (ops ++ [x])) :
    (HandlesOk SpecWorld.empty ops ∧ Respects ops) ∧ HandlesOk (specRun ops) [x] ∧
    (∀ h, h < (specRun ops).handles.length → ((specRun ops).handle h).1 < (specRun ops).classes.length) ∧
    ∀ h, h < (specStep (specRun ops) x).handles.length →
      ObsEq (implRun true (ops ++ [x])) (specStep (specRun ops) x) h := by
  obtain ⟨hh0, hx⟩ := handlesOk_append ops [x] _ hh
  have hr0 := respects_prefix ops _ hr
  refine ⟨⟨hh0, hr0⟩, hx, (run_obs ops hh0 hr0).cok, ?_⟩
  rw [← specRun_snoc]
  exact (refines _ hh hr).2

/-! ### the specification after one more step -/

section remove
variable (s : SpecWorld α) (h : Nat) (v : α) (hc : (s.handle h).1 < s.classes.length)
include hc

theorem remove_cls : (specStep s (.remove h v)).cls h =
    { s.cls h with g := (s.cls h).g.remove v, tags := (s.cls h).tags.filter (fun p => !decide (p.1 = v)) } := by
  show (s.setCls h _).cls h = _
  rw [setCls_cls _ _ _ _ hc]; simp

theorem remove_weight (a b : α) : ((specStep s (.remove h v)).view h).weight a b =
    if a = v ∨ b = v then none else (s.view h).weight a b := by
  rw [view_weight, view_weight, remove_cls s h v hc,
    (rfl : (specStep s (.remove h v)).handle h = s.handle h)]
  exact clsW_remove _ _ _ _ _ _ _

theorem remove_verts (x : α) : x ∈ ((specStep s (.remove h v)).view h).verts ↔ x ∈ (s.view h).verts ∧ x ≠ v := by
  rw [view_verts, view_verts, remove_cls s h v hc]
  exact mem_remove_verts _ _ _

end remove

section addow
variable (s : SpecWorld α) (h : Nat) (v : α) (tag : Nat) (hc : (s.handle h).1 < s.classes.length)
include hc

theorem addow_cls : (specStep s (.addow h v tag)).cls h =
    { s.cls h with g := (s.cls h).g.add v, tags := setTag (s.cls h).tags v tag } := by
  show (s.setCls h _).cls h = _
  rw [setCls_cls _ _ _ _ hc]; simp

theorem addow_weight (a b : α) : ((specStep s (.addow h v tag)).view h).weight a b = (s.view h).weight a b := by
  rw [view_weight, view_weight, addow_cls s h v tag hc]
  show clsW _ (s.handle h).2 a b = _
  unfold clsW
  simp only [weight_add]

theorem addow_vert : v ∈ ((specStep s (.addow h v tag)).view h).verts ∧
    aget ((specStep s (.addow h v tag)).cls h).tags v = some tag := by
  rw [view_verts, addow_cls s h v tag hc]
  refine ⟨(mem_add_verts _ _ _).2 (Or.inr rfl), ?_⟩
  show aget (setTag _ v tag) v = _
  rw [aget_setTag]; simp

end addow

section reverse
variable (s : SpecWorld α) (h : Nat) (hlt : h < s.handles.length)
include hlt

theorem reverse_new : (specStep s (.reverse h)).cls s.handles.length = (specStep s (.reverse h)).cls h ∧
    (specStep s (.reverse h)).handle s.handles.length = (((specStep s (.reverse h)).handle h).1,
      !((specStep s (.reverse h)).handle h).2) := by
  have e1 : (specStep s (.reverse h)).handle s.handles.length = ((s.handle h).1, !(s.handle h).2) :=
    push_handle_new s [] _ _
  have e2 : (specStep s (.reverse h)).handle h = s.handle h := push_handle_old s [] _ _ hlt
  unfold SpecWorld.cls
  rw [e1, e2]
  exact ⟨rfl, rfl⟩

theorem reverse_weight (a b : α) : ((specStep s (.reverse h)).view s.handles.length).weight a b =
    ((specStep s (.reverse h)).view h).weight b a := by
  obtain ⟨e1, e2⟩ := reverse_new s h hlt
  rw [view_weight, view_weight, e1, e2]
  unfold clsW
  cases ((specStep s (.reverse h)).handle h).2 <;> rfl

end reverse

section copy
variable (s : SpecWorld α) (h : Nat) (hlt : h < s.handles.length) (hc : (s.handle h).1 < s.classes.length)
include hlt hc

theorem copy_new : (specStep s (.copy h)).cls s.handles.length = (specStep s (.copy h)).cls h ∧
    ((specStep s (.copy h)).handle s.handles.length).2 = ((specStep s (.copy h)).handle h).2 := by
  rw [specStep_copy, push_cls_new, push_cls_old _ _ _ _ hlt hc, push_handle_new, push_handle_old _ _ _ _ hlt]
  exact ⟨getD_append_len _ _ _ _, rfl⟩

theorem copy_view : (specStep s (.copy h)).view s.handles.length = (specStep s (.copy h)).view h := by
  obtain ⟨e1, e2⟩ := copy_new s h hlt hc
  unfold SpecWorld.view
  rw [e1, e2]

end copy

theorem mut_handles (s : SpecWorld α) (op : GOp α) (k : Nat)
    (hop : match op with
      | .add k' _ _ | .addow k' _ _ | .edge k' _ _ _ | .redge k' _ _ | .remove k' _ => k' = k
      | _ => False) : (specStep s op).handles = s.handles := by
  rw [specStep_mut s (mutates_of_match hop)]
  rfl

theorem copy_mut_old (s : SpecWorld α) (h : Nat) (op : GOp α)
    (hop : match op with
      | .add k _ _ | .addow k _ _ | .edge k _ _ _ | .redge k _ _ | .remove k _ => k = s.handles.length
      | _ => False)
    (k : Nat) (hk : k < s.handles.length) (hc : (s.handle k).1 < s.classes.length) :
    (specStep (specStep s (.copy h)) op).handle k = s.handle k ∧
    (specStep (specStep s (.copy h)) op).cls k = s.cls k := by
  have h1 : (specStep (specStep s (.copy h)) op).handle k = s.handle k := by
    unfold SpecWorld.handle
    rw [mut_handles _ op _ hop]
    exact push_handle_old s _ _ _ hk
  refine ⟨h1, ?_⟩
  unfold SpecWorld.cls
  rw [h1, List.getD_eq_getElem?_getD, List.getD_eq_getElem?_getD, copy_indep s h op hop _ hc]

end ArgMapper.C19
