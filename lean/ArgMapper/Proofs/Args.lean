import ArgMapper.Model.Args
import ArgMapper.Proofs.Maps
/-!
# Helper lemmas for C16: `lower`, the last write to a key (also used by C15), `build`, the setters
-/
namespace ArgMapper

/-! ### `lower` -/

theorem toLower_toLower (c : Char) : c.toLower.toLower = c.toLower := by
  by_cases h : c.val ≥ 'A'.val ∧ c.val ≤ 'Z'.val
  · -- an upper-case letter moves into `'a'..'z'`, which `toLower` leaves alone
    unfold Char.toLower
    rw [dif_pos h, dif_neg]
    intro h2
    have h3 := h2.2
    have h1 := h.1
    have h2 := h.2
    simp only [UInt32.le_iff_toNat_le, ge_iff_le, UInt32.toNat_add] at h1 h2 h3
    simp at h1 h2 h3
    omega
  · have h1 : c.toLower = c := by unfold Char.toLower; rw [dif_neg h]
    rw [h1, h1]

theorem lower_lower (s : String) : lower (lower s) = lower s := by
  unfold lower
  rw [String.map_map]
  congr 1
  funext c
  exact toLower_toLower c

theorem lower_eq_empty {s : String} : lower s = "" ↔ s = "" := String.map_eq_empty

theorem eq_empty_of_lower_eq {n n' : String} (h : lower n = lower n') : n = "" ↔ n' = "" := by
  rw [← lower_eq_empty, h, lower_eq_empty]

/-! ### the last write to a key -/

section Maps
variable {κ β : Type} [DecidableEq κ]

/-- the last write to `k` in a list of writes (generic form of `C16.lastWrite`) -/
def lastW (ws : List (κ × β)) (k : κ) : Option β :=
  (ws.reverse.find? (fun w => decide (w.1 = k))).map (·.2)

theorem lastW_nil (k : κ) : lastW ([] : List (κ × β)) k = none := rfl

theorem lastW_eq_mapGet (ws : List (κ × β)) (k : κ) : lastW ws k = mapGet ws.reverse k := rfl

theorem lastW_singleton_or (k0 k : κ) (v : β) (y : Option β) :
    (lastW [(k0, v)] k).or y = if k = k0 then some v else y := by
  rw [lastW_eq_mapGet, List.reverse_singleton, mapGet_cons, mapGet_nil]
  by_cases h : k = k0
  · rw [if_pos h, if_pos h.symm]; rfl
  · rw [if_neg h, if_neg (Ne.symm h)]; rfl

theorem lastW_append (a b : List (κ × β)) (k : κ) :
    lastW (a ++ b) k = (lastW b k).or (lastW a k) := by
  rw [lastW_eq_mapGet, List.reverse_append, mapGet_append]; rfl

theorem lastW_mem {ws : List (κ × β)} {k : κ} {v : β} (h : lastW ws k = some v) : (k, v) ∈ ws :=
  List.mem_reverse.1 (mem_of_mapGet h)

theorem lastW_isSome_of_mem {ws : List (κ × β)} {k : κ} {v : β} (h : (k, v) ∈ ws) :
    (lastW ws k).isSome = true :=
  mapGet_isSome_of_mem (p := (k, v)) (List.mem_reverse.2 h)

theorem lastW_eq_of_forall {ws : List (κ × β)} {k : κ} {x : β} (hx : (k, x) ∈ ws)
    (hall : ∀ v, (k, v) ∈ ws → v = x) : lastW ws k = some x := by
  obtain ⟨v, hv⟩ := Option.isSome_iff_exists.1 (lastW_isSome_of_mem hx)
  rw [hv, hall v (lastW_mem hv)]

theorem lastW_eq_some_iff {ws : List (κ × β)} (hd : (ws.map (·.1)).Nodup) {k : κ} {v : β} :
    lastW ws k = some v ↔ (k, v) ∈ ws :=
  ⟨lastW_mem, fun h => lastW_eq_of_forall h fun _ h' => nodup_keys_unique hd h' h⟩

theorem lastW_perm {ws ws' : List (κ × β)} (hp : ws.Perm ws') (hd : (ws.map (·.1)).Nodup) (k : κ) :
    lastW ws k = lastW ws' k := by
  have hd' : (ws'.map (·.1)).Nodup := (hp.map _).nodup_iff.mp hd
  apply Option.ext
  intro v
  rw [lastW_eq_some_iff hd, lastW_eq_some_iff hd', hp.mem_iff]

omit [DecidableEq κ] in
theorem flatMap_toList {α : Type} (f : α → Option β) (l : List α) :
    l.flatMap (fun a => (f a).toList) = l.filterMap f := by
  induction l with
  | nil => rfl
  | cons a l ih => rw [List.flatMap_cons, List.filterMap_cons, ih]; cases f a <;> rfl

/-- a fold of steps, each of which behaves as "the step's last write wins", behaves as "the last
write of the whole list wins" -/
theorem get_foldl_lastW {B α : Type} (get : B → κ → Option β) (step : B → α → B)
    (w : α → List (κ × β))
    (hstep : ∀ b a k, get (step b a) k = (lastW (w a) k).or (get b k)) :
    ∀ (l : List α) (b : B) (k : κ), get (l.foldl step b) k = (lastW (l.flatMap w) k).or (get b k) := by
  intro l
  induction l with
  | nil => intro b k; simp [lastW_nil]
  | cons a l ih =>
    intro b k
    rw [List.foldl_cons, ih, hstep, List.flatMap_cons, lastW_append, Option.or_assoc]

end Maps

/-! ### `build` -/

theorem buildFrom_cons (b : Builder) (o : Opt) (r : List Opt) (h : o ≠ .nilOpt) :
    buildFrom b (o :: r) = buildFrom (applyOpt b o) r := by
  cases o with
  | nilOpt => exact absurd rfl h
  | _ => rfl

theorem buildFrom_of_not_mem (opts : List Opt) (hn : Opt.nilOpt ∉ opts) (b : Builder) :
    buildFrom b opts = (if (opts.foldl applyOpt b).errs = 0
      then .ok (opts.foldl applyOpt b) else .optErr (opts.foldl applyOpt b)) := by
  induction opts generalizing b with
  | nil => rfl
  | cons o rest ih =>
    rw [List.mem_cons, not_or] at hn
    rw [buildFrom_cons b o rest (Ne.symm hn.1), List.foldl_cons]
    exact ih hn.2 _

theorem buildFrom_of_mem (opts : List Opt) (h : Opt.nilOpt ∈ opts) (b : Builder) :
    buildFrom b opts = .nilArg := by
  induction opts generalizing b with
  | nil => cases h
  | cons o rest ih =>
    by_cases ho : o = .nilOpt
    · subst ho; rfl
    · rw [buildFrom_cons b o rest ho]
      exact ih ((List.mem_cons.1 h).resolve_left (Ne.symm ho)) _

/-! ### the setters: an empty name or subtype redirects, a nil value writes nothing -/

theorem setNamed_empty (b : Builder) (v : Option Val) : setNamed b "" v = setTyped b v := if_pos rfl

theorem setTypedSub_empty (b : Builder) (v : Option Val) : setTypedSub b v "" = setTyped b v := if_pos rfl

theorem setNamedSub_empty_name (b : Builder) (v : Option Val) (st : String) :
    setNamedSub b "" v st = setTypedSub b v st := if_pos rfl

theorem setNamedSub_empty_sub (b : Builder) (n : String) (v : Option Val) :
    setNamedSub b n v "" = setNamed b n v := by
  by_cases hn : n = ""
  · subst hn; rw [setNamedSub_empty_name, setTypedSub_empty, setNamed_empty]
  · unfold setNamedSub; rw [if_neg hn, if_pos rfl]

/-- a name enters a setter only through `lower` (and through being empty, which `lower` preserves) -/
theorem setNamedSub_lower_congr (b : Builder) {n n' : String} (h : lower n = lower n')
    (v : Option Val) (st : String) : setNamedSub b n v st = setNamedSub b n' v st := by
  by_cases hn : n = ""
  · rw [hn, (eq_empty_of_lower_eq h).1 hn]
  · have hn' : n' ≠ "" := fun e => hn ((eq_empty_of_lower_eq h).2 e)
    unfold setNamedSub setNamed
    rw [if_neg hn, if_neg hn', if_neg hn, if_neg hn', h]

theorem setTypedSub_none (b : Builder) (st : String) : setTypedSub b none st = b := by
  unfold setTypedSub; split <;> rfl

theorem setNamed_none (b : Builder) (n : String) : setNamed b n none = b := by
  unfold setNamed; split <;> rfl

theorem setNamedSub_none (b : Builder) (n st : String) : setNamedSub b n none st = b := by
  unfold setNamedSub
  split
  · exact setTypedSub_none b st
  · split
    · exact setNamed_none b n
    · rfl

end ArgMapper
