import ArgMapper.Model.GraphImpl
import ArgMapper.Proofs.Maps
/-!
# Association-list lemmas for the heap-of-maps graph model (helper file for C19)
-/
namespace ArgMapper
namespace GraphImpl
variable {α : Type} [DecidableEq α] {β : Type}

@[simp] theorem aget_nil (k : α) : aget ([] : List (α × β)) k = none := rfl

/-! `aget` is `mapGet`, `adel` the deletion `Proofs/Maps.lean` speaks of -/

theorem aget_cons (p : α × β) (m : List (α × β)) (k : α) :
    aget (p :: m) k = if p.1 = k then some p.2 else aget m k :=
  mapGet_cons p.1 p.2 m k

theorem aget_append (m n : List (α × β)) (k : α) :
    aget (m ++ n) k = (aget m k).or (aget n k) :=
  mapGet_append m n k

theorem aget_single (k' : α) (v : β) (k : α) :
    aget [(k', v)] k = if k' = k then some v else none :=
  mapGet_cons k' v [] k

theorem aget_adel (m : List (α × β)) (k k' : α) :
    aget (adel m k) k' = if k' = k then none else aget m k' :=
  mapGet_filter_ne m k k'

theorem aget_map_set (m : List (α × β)) (k : α) (v : β) (k' : α) :
    aget (m.map (fun p => if p.1 = k then (k, v) else p)) k'
      = if k' = k then (if (aget m k).isSome then some v else none) else aget m k' := by
  induction m with
  | nil => simp
  | cons p m ih =>
    simp only [List.map_cons, aget_cons, ih]
    by_cases h1 : p.1 = k
    · by_cases h2 : k' = k
      · subst h2; simp [h1]
      · have : ¬ k = k' := fun e => h2 e.symm
        simp [h1, h2, this]
    · by_cases h2 : k' = k
      · subst h2; simp [h1]
      · simp [h1, h2]

theorem aget_aset (m : List (α × β)) (k : α) (v : β) (k' : α) :
    aget (aset m k v) k' = if k' = k then some v else aget m k' := by
  unfold aset
  by_cases h : (aget m k).isSome
  · simp only [h, if_true, aget_map_set]
  · rw [if_neg h, aget_append, aget_single]
    by_cases h2 : k' = k
    · subst h2
      simp only [Bool.not_eq_true, Option.isSome_eq_false_iff, Option.isNone_iff_eq_none] at h
      simp [h]
    · have : ¬ k = k' := fun e => h2 e.symm
      simp [h2, this]

theorem mem_akeys_iff (m : List (α × β)) (k : α) : k ∈ akeys m ↔ (aget m k).isSome := by
  constructor
  · intro h
    obtain ⟨p, hp, rfl⟩ := List.mem_map.1 h
    exact mapGet_isSome_of_mem hp
  · intro h
    obtain ⟨v, hv⟩ := Option.isSome_iff_exists.1 h
    exact List.mem_map.2 ⟨(k, v), mem_of_mapGet hv, rfl⟩

theorem aget_eq_none_iff (m : List (α × β)) (k : α) : aget m k = none ↔ k ∉ akeys m := by
  rw [mem_akeys_iff]; cases aget m k <;> simp

theorem akeys_map_set (m : List (α × β)) (k : α) (v : β) :
    akeys (m.map (fun p => if p.1 = k then (k, v) else p)) = akeys m := by
  unfold akeys
  rw [List.map_map]
  apply List.map_congr_left
  intro p _
  by_cases h : p.1 = k <;> simp [h]

theorem akeys_aset_nodup (m : List (α × β)) (k : α) (v : β) (h : (akeys m).Nodup) :
    (akeys (aset m k v)).Nodup := by
  unfold aset
  by_cases hk : (aget m k).isSome
  · simp only [hk, if_true, akeys_map_set]; exact h
  · simp only [hk]
    have : k ∉ akeys m := by rw [mem_akeys_iff]; exact hk
    unfold akeys at this h ⊢
    simp only [Bool.false_eq_true, if_false, List.map_append, List.map_cons, List.map_nil]
    rw [List.nodup_append]
    refine ⟨h, by simp, ?_⟩
    intro a ha b hb
    simp only [List.mem_singleton] at hb
    subst hb
    intro e; subst e; exact this ha

theorem akeys_adel_nodup (m : List (α × β)) (k : α) (h : (akeys m).Nodup) :
    (akeys (adel m k)).Nodup := by
  unfold akeys adel at *
  exact (List.filter_sublist.map _).nodup h

theorem mem_iff_aget (m : List (α × β)) (h : (akeys m).Nodup) (k : α) (v : β) :
    (k, v) ∈ m ↔ aget m k = some v := by
  refine ⟨fun hm => ?_, mem_of_mapGet⟩
  obtain ⟨v', hv'⟩ := Option.isSome_iff_exists.1 (mapGet_isSome_of_mem hm)
  exact hv'.trans (congrArg some (nodup_keys_unique h (mem_of_mapGet hv') hm))

/-! ### two-level lookup -/

def look (m : AdjObj α) (u v : α) : Option Int :=
  match aget m u with
  | none => none
  | some x => aget x v

theorem aget_delInner (m : AdjObj α) (o k a : α) :
    aget (delInner m o k) a = if a = o then (aget m o).map (fun x => adel x k) else aget m a := by
  unfold delInner
  cases h : aget m o with
  | none =>
    by_cases ha : a = o
    · subst ha; simp [h]
    · simp [ha]
  | some x => simp [aget_aset]

/-- an adjacency object represents vertex set `V` and weight function `W` -/
structure Half (m : AdjObj α) (V : α → Prop) (W : α → α → Option Int) : Prop where
  keys : ∀ v, (aget m v).isSome ↔ V v
  wt : ∀ u v, look m u v = W u v
  nd : ∀ u x, aget m u = some x → (akeys x).Nodup

variable {m : AdjObj α} {V : α → Prop} {W : α → α → Option Int}

theorem Half.nil : Half ([] : AdjObj α) (fun _ => False) (fun _ _ => none) :=
  ⟨by simp, by simp [look], by simp⟩

theorem Half.congr {V V' : α → Prop} {W W' : α → α → Option Int}
    (h : Half m V W) (hV : ∀ v, V' v ↔ V v) (hW : ∀ a b, W' a b = W a b) : Half m V' W' :=
  ⟨fun v => by rw [hV]; exact h.keys v, fun a b => by rw [hW]; exact h.wt a b, h.nd⟩

theorem Half.addV {V V' : α → Prop}
    (h : Half m V W) (v : α) (hv : ¬ V v) (hV : ∀ x, V' x ↔ V x ∨ x = v) :
    Half (aset m v []) V' W := by
  have hnone : aget m v = none := by
    have := h.keys v
    cases hh : aget m v with
    | none => rfl
    | some x => rw [hh] at this; exact absurd (this.1 rfl) hv
  refine ⟨?_, ?_, ?_⟩
  · intro x
    rw [aget_aset, hV, ← h.keys]
    by_cases hx : x = v <;> simp [hx]
  · intro a b
    rw [← h.wt]
    unfold look
    rw [aget_aset]
    by_cases ha : a = v
    · subst ha; simp [hnone]
    · simp [ha]
  · intro u x
    rw [aget_aset]
    by_cases hu : u = v
    · simp only [hu, if_true, Option.some.injEq]
      intro e; subst e; simp [akeys]
    · simp only [hu, if_false]; exact h.nd u x

theorem Half.setE {W W' : α → α → Option Int}
    (h : Half m V W) (u v : α) (wt : Int) (x : Inner α) (hx : aget m u = some x)
    (hW : ∀ a b, W' a b = if a = u ∧ b = v then some wt else W a b) :
    Half (aset m u (aset x v wt)) V W' := by
  refine ⟨?_, ?_, ?_⟩
  · intro y
    rw [aget_aset, ← h.keys]
    by_cases hy : y = u
    · subst hy; simp [hx]
    · simp [hy]
  · intro a b
    rw [hW, ← h.wt]
    unfold look
    rw [aget_aset]
    by_cases ha : a = u
    · subst ha
      simp only [if_true, true_and, hx, aget_aset]
    · simp [ha]
  · intro a y
    rw [aget_aset]
    by_cases ha : a = u
    · simp only [ha, if_true, Option.some.injEq]
      intro e; subst e
      exact akeys_aset_nodup _ _ _ (h.nd u x hx)
    · simp only [ha, if_false]; exact h.nd a y

theorem Half.delE {W W' : α → α → Option Int}
    (h : Half m V W) (u v : α)
    (hW : ∀ a b, W' a b = if a = u ∧ b = v then none else W a b) :
    Half (delInner m u v) V W' := by
  refine ⟨?_, ?_, ?_⟩
  · intro y
    rw [aget_delInner, ← h.keys]
    by_cases hy : y = u
    · subst hy; simp
    · simp [hy]
  · intro a b
    rw [hW, ← h.wt]
    unfold look
    rw [aget_delInner]
    by_cases ha : a = u
    · subst ha
      cases hx : aget m a with
      | none => simp
      | some x =>
        simp only [if_true, Option.map_some, aget_adel, true_and]
    · simp [ha]
  · intro a y
    rw [aget_delInner]
    by_cases ha : a = u
    · subst ha
      cases hx : aget m a with
      | none => simp
      | some x =>
        simp only [if_true, Option.map_some, Option.some.injEq]
        intro e; subst e
        exact akeys_adel_nodup _ _ (h.nd a x hx)
    · simp only [ha, if_false]; exact h.nd a y

theorem Half.delInners (ks : List α) (v : α) :
    ∀ {m : AdjObj α} {W W' : α → α → Option Int}, Half m V W →
    (∀ a b, W' a b = if a ∈ ks ∧ b = v then none else W a b) →
    Half (ks.foldl (fun m o => delInner m o v) m) V W' := by
  induction ks with
  | nil =>
    intro m W W' h hW
    exact h.congr (fun _ => Iff.rfl) (fun a b => by rw [hW]; simp)
  | cons k ks ih =>
    intro m W W' h hW
    simp only [List.foldl_cons]
    apply ih (h.delE k v (W' := fun a b => if a = k ∧ b = v then none else W a b) (fun a b => rfl))
    intro a b
    rw [hW]
    by_cases ha : a = k
    · by_cases hb : b = v <;> simp [ha, hb]
    · simp [ha]

theorem Half.delInners_all {ks : List α} {v : α}
    {W W' : α → α → Option Int} (h : Half m V W) (hks : ∀ a, (W a v).isSome → a ∈ ks)
    (hW : ∀ a b, W' a b = if b = v then none else W a b) :
    Half (ks.foldl (fun m o => delInner m o v) m) V W' := by
  refine Half.delInners ks v h (fun a b => ?_)
  rw [hW]
  by_cases hb : b = v
  · by_cases ha : a ∈ ks
    · simp [ha, hb]
    · -- a key outside `ks` has no entry for `v` to begin with
      have : W a v = none := Option.not_isSome_iff_eq_none.1 fun hs => ha (hks a hs)
      simp [ha, hb, this]
  · simp [hb]

theorem Half.adel {V V' : α → Prop} {W W' : α → α → Option Int}
    (h : Half m V W) (v : α) (hV : ∀ x, V' x ↔ V x ∧ x ≠ v)
    (hW : ∀ a b, W' a b = if a = v then none else W a b) :
    Half (adel m v) V' W' := by
  refine ⟨?_, ?_, ?_⟩
  · intro y
    rw [aget_adel, hV, ← h.keys]
    by_cases hy : y = v <;> simp [hy]
  · intro a b
    rw [hW, ← h.wt]
    unfold look
    rw [aget_adel]
    by_cases ha : a = v <;> simp [ha]
  · intro a y
    rw [aget_adel]
    by_cases ha : a = v
    · simp [ha]
    · simp only [ha, if_false]; exact h.nd a y

theorem Half.mem_edges (h : Half m V W) (u v : α) (wt : Int) :
    (v, wt) ∈ (aget m u).getD [] ↔ W u v = some wt := by
  rw [← h.wt]
  unfold look
  cases hx : aget m u with
  | none => simp
  | some x =>
    simp only [Option.getD_some]
    exact mem_iff_aget x (h.nd u x hx) v wt

theorem Half.mem_succ_keys (h : Half m V W) (u v : α) :
    v ∈ akeys ((aget m u).getD []) ↔ (W u v).isSome := by
  rw [← h.wt, mem_akeys_iff]
  unfold look
  cases hx : aget m u with
  | none => simp
  | some x => simp

/-- the hash object represents the payload table `T` on vertex set `V` -/
structure HRep (hs : HashObj α) (V : α → Prop) (T : α → Option Nat) : Prop where
  nd : (akeys hs).Nodup
  get : ∀ v, aget hs v = T v
  dom : ∀ v, (T v).isSome ↔ V v

theorem HRep.set {hs : HashObj α} {V V' : α → Prop} {T T' : α → Option Nat}
    (h : HRep hs V T) (v : α) (t : Nat) (hV : ∀ x, V' x ↔ V x ∨ x = v)
    (hT : ∀ x, T' x = if x = v then some t else T x) : HRep (aset hs v t) V' T' := by
  refine ⟨akeys_aset_nodup _ _ _ h.nd, ?_, ?_⟩
  · intro x; rw [aget_aset, hT, h.get]
  · intro x
    rw [hT, hV, ← h.dom]
    by_cases hx : x = v <;> simp [hx]

theorem HRep.del {hs : HashObj α} {V V' : α → Prop} {T T' : α → Option Nat}
    (h : HRep hs V T) (v : α) (hV : ∀ x, V' x ↔ V x ∧ x ≠ v)
    (hT : ∀ x, T' x = if x = v then none else T x) : HRep (adel hs v) V' T' := by
  refine ⟨akeys_adel_nodup _ _ h.nd, ?_, ?_⟩
  · intro x; rw [aget_adel, hT, h.get]
  · intro x
    rw [hT, hV, ← h.dom]
    by_cases hx : x = v <;> simp [hx]

theorem HRep.mem {hs : HashObj α} {T : α → Option Nat}
    (h : HRep hs V T) (v : α) (t : Nat) : (v, t) ∈ hs ↔ V v ∧ T v = some t := by
  rw [mem_iff_aget hs h.nd, h.get]
  constructor
  · intro e; refine ⟨(h.dom v).1 (by rw [e]; rfl), e⟩
  · exact fun e => e.2

end GraphImpl
end ArgMapper
