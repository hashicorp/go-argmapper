import ArgMapper.Props.C01b
/-!
# Counterexamples to the original statement of `C05.complete_single` (degenerate value sets)

The model's `FuncDesc` carries arbitrary `ValueSet`s; `C01.FuncsConsistent` (`ValueSet.KeysOK`) does not
say that the lookup maps behave like Go maps (one entry per key) nor that a set without a struct type
has no values.  Both scenarios below satisfy every hypothesis of the original statement, for fuel 5 and an
oracle of root-first real paths, and end in `panic finalValue` / `missingArg`.
Neither value set can be produced by `newFunc`.
-/
namespace ArgMapper.CompleteCE
open ArgMapper

def e0 : TypeEnv := ⟨fun _ => false, fun _ _ => false⟩
def sv (n : String) (t : Nat) (i : Nat) : SVal := ⟨⟨n, t, ""⟩, i⟩

/-- target `func(T2)` -/
def tgt : FuncDesc := ⟨0, 0, ⟨true, 0, [sv "" 2 0], [], [(2, sv "" 2 0)], true⟩, ValueSet.nil, false, false⟩
def b1 : Builder := { Builder.empty with convs := [1] }
def beh0 : Nat → Nat → List PVal → BehOut := fun _ _ _ => ⟨[7, 8], none⟩

/-! ### 1. two entries under one key in the named output map -/

/-- a converter without inputs whose named output map has two entries `"a"` (types 1 and 2): both value
vertices are created, `outputValues` looks both up as the *first* entry, so `value "a" 2` receives a
value of type 1, which the argument vertex `arg 2` refuses -/
def f1 : FuncDesc :=
  ⟨1, 1, ValueSet.nil, ⟨true, 0, [sv "a" 1 0, sv "a" 2 1], [("a", sv "a" 1 0), ("a", sv "a" 2 1)], [], false⟩, false, false⟩
def funcs1 : Nat → Option FuncDesc := fun i => if i = 1 then some f1 else none
def orc1 : List OrcItem :=
  [⟨.func 0, [.arg 2 ""], [[.root, .func 1, .value "a" 2 "", .arg 2 ""]]⟩, ⟨.func 1, [], []⟩]

theorem consistent1 : C01.FuncsConsistent (C01.allFuncs b1 funcs1 tgt) := by
  unfold C01.FuncsConsistent ValueSet.KeysOK; decide +kernel

theorem labels1 : b1.namedSub = [] ∧ b1.typedSub = [] ∧
    ∀ f ∈ C01.allFuncs b1 funcs1 tgt, (∀ l ∈ f.input.labels, l.sub = "") ∧ (∀ l ∈ f.output.labels, l.sub = "") := by
  decide +kernel

theorem run1 :
    (callGraph {} e0 b1 funcs1 tgt false none).unsat = [] ∧
    (callWith (C01.stdCtx e0 b1 funcs1 tgt beh0) (callGraph {} e0 b1 funcs1 tgt false none) tgt 5
      (initSt (callGraph {} e0 b1 funcs1 tgt false none).cg [] orc1)).1 = .panic .finalValue := by
  decide +kernel

/-! ### 2. a value set without struct type that lists a value -/

/-- a converter `func() T2` whose input set has `hasStruct = false` (so `empty` holds and the vertex hangs
off the root) but lists a value of type 7: its requirement `arg 7` is pruned, the nested search finds
nothing missing, and `callDirect` looks the argument up in an empty map -/
def f2 : FuncDesc :=
  ⟨1, 1, ⟨false, 0, [sv "" 7 0], [], [(7, sv "" 7 0)], false⟩, ⟨true, 0, [sv "" 2 0], [], [(2, sv "" 2 0)], false⟩, false, false⟩
def funcs2 : Nat → Option FuncDesc := fun i => if i = 1 then some f2 else none
def orc2 : List OrcItem :=
  [⟨.func 0, [.arg 2 ""], [[.root, .func 1, .out 2 "", .arg 2 ""]]⟩, ⟨.func 1, [], []⟩]

theorem consistent2 : C01.FuncsConsistent (C01.allFuncs b1 funcs2 tgt) := by
  unfold C01.FuncsConsistent ValueSet.KeysOK; decide +kernel

theorem labels2 : b1.namedSub = [] ∧ b1.typedSub = [] ∧
    ∀ f ∈ C01.allFuncs b1 funcs2 tgt, (∀ l ∈ f.input.labels, l.sub = "") ∧ (∀ l ∈ f.output.labels, l.sub = "") := by
  decide +kernel

theorem run2 :
    (callGraph {} e0 b1 funcs2 tgt false none).unsat = [] ∧
    (callWith (C01.stdCtx e0 b1 funcs2 tgt beh0) (callGraph {} e0 b1 funcs2 tgt false none) tgt 5
      (initSt (callGraph {} e0 b1 funcs2 tgt false none).cg [] orc2)).1 = .missingArg := by
  decide +kernel

end ArgMapper.CompleteCE
