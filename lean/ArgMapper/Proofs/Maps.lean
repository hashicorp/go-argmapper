import ArgMapper.Model.Sig
import ArgMapper.Proofs.Lists
/-!
# Association lists as Go maps: `mapGet` after `mapSet`, membership
-/
namespace ArgMapper

variable {κ β : Type} [DecidableEq κ]

theorem mapGet_nil (k : κ) : mapGet ([] : List (κ × β)) k = none := rfl

theorem mapGet_cons (a : κ) (y : β) (m : List (κ × β)) (x : κ) :
    mapGet ((a, y) :: m) x = if a = x then some y else mapGet m x := by
  unfold mapGet
  rw [List.find?_cons]
  by_cases h : a = x <;> simp [h]

theorem mapGet_append (a b : List (κ × β)) (k : κ) :
    mapGet (a ++ b) k = (mapGet a k).or (mapGet b k) := by
  unfold mapGet
  rw [List.find?_append]
  cases a.find? (fun p => decide (p.1 = k)) <;> rfl

/-- Go's `delete(m, v)` -/
theorem mapGet_filter_ne (m : List (κ × β)) (v u : κ) :
    mapGet (m.filter (fun p => !decide (p.1 = v))) u = if u = v then none else mapGet m u := by
  induction m with
  | nil => rw [List.filter_nil, mapGet_nil, ite_self]
  | cons a m ih =>
    obtain ⟨a, y⟩ := a
    by_cases hav : a = v
    · rw [List.filter_cons_of_neg (by simpa using hav), ih, mapGet_cons]
      by_cases huv : u = v
      · rw [if_pos huv, if_pos huv]
      · rw [if_neg huv, if_neg huv, if_neg (fun h : a = u => huv (h.symm.trans hav))]
    · rw [List.filter_cons_of_pos (by simpa using hav), mapGet_cons, mapGet_cons, ih]
      by_cases hau : a = u
      · rw [if_pos hau, if_pos hau, if_neg (fun h => hav (hau.trans h))]
      · rw [if_neg hau, if_neg hau]

theorem mapGet_mapSet (m : List (κ × β)) (k k' : κ) (v : β) :
    mapGet (mapSet m k v) k' = if k' = k then some v else mapGet m k' := by
  rw [mapSet, mapGet_append, mapGet_filter_ne, mapGet_cons, mapGet_nil]
  by_cases h : k' = k
  · rw [if_pos h, if_pos h, if_pos h.symm]; rfl
  · rw [if_neg h, if_neg h, if_neg (Ne.symm h), Option.or_none]

theorem mem_of_mapGet {m : List (κ × β)} {k : κ} {v : β} (h : mapGet m k = some v) : (k, v) ∈ m := by
  obtain ⟨p, hp, rfl⟩ := Option.map_eq_some_iff.1 h
  have hk : p.1 = k := by simpa using List.find?_some hp
  rw [← hk]
  exact List.mem_of_find?_eq_some hp

theorem mapGet_isSome_of_mem {m : List (κ × β)} {p : κ × β} (h : p ∈ m) :
    (mapGet m p.1).isSome = true := by
  rw [mapGet, Option.isSome_map, List.find?_isSome]
  exact ⟨p, h, decide_eq_true rfl⟩

theorem mem_mapSet {m : List (κ × β)} {k : κ} {v : β} {p : κ × β} (h : p ∈ mapSet m k v) :
    p ∈ m ∨ p = (k, v) := by
  rcases List.mem_append.1 h with h | h
  · exact .inl (List.mem_filter.1 h).1
  · exact .inr (List.mem_singleton.1 h)

theorem mem_mapSet_iff {m : List (κ × β)} {k : κ} {v : β} {p : κ × β} :
    p ∈ mapSet m k v ↔ (p ∈ m ∧ p.1 ≠ k) ∨ p = (k, v) := by
  simp [mapSet]

theorem mapSet_key {m : List (κ × β)} (k : κ) (v : β) {p : κ × β}
    (hp : p ∈ m) : ∃ p' ∈ mapSet m k v, p'.1 = p.1 := by
  by_cases hk : p.1 = k
  · exact ⟨(k, v), mem_mapSet_iff.2 (.inr rfl), hk.symm⟩
  · exact ⟨p, mem_mapSet_iff.2 (.inl ⟨hp, hk⟩), rfl⟩

theorem mapSet_of_not_mem (m : List (κ × β)) (k : κ) (v : β) (h : k ∉ m.map (·.1)) :
    mapSet m k v = m ++ [(k, v)] := by
  unfold mapSet
  rw [List.filter_eq_self.2]
  intro a ha
  have : a.1 ≠ k := fun h' => h (h' ▸ List.mem_map.mpr ⟨a, ha, rfl⟩)
  simpa using this

omit [DecidableEq κ] in
theorem nodup_keys_unique {ws : List (κ × β)} (hd : (ws.map (·.1)).Nodup) {k : κ} {v v' : β}
    (h1 : (k, v) ∈ ws) (h2 : (k, v') ∈ ws) : v = v' :=
  (Prod.mk.inj (inj_of_nodup_map hd h1 h2 rfl)).2

theorem mapGet_filterMap (f : κ → Option β) (x : κ) (l : List κ) :
    mapGet (l.filterMap (fun v => (f v).map (fun y => (v, y)))) x = if x ∈ l then f x else none := by
  induction l with
  | nil => rfl
  | cons a l ih =>
    rw [List.filterMap_cons]
    by_cases hxa : a = x
    · subst hxa
      cases hf : f a with
      | none => rw [Option.map_none, ih, hf]; simp
      | some y => rw [Option.map_some, mapGet_cons, if_pos rfl]; simp
    · have hmem : x ∈ a :: l ↔ x ∈ l := by simp [Ne.symm hxa]
      cases hf : f a with
      | none => rw [Option.map_none, ih]; simp only [hmem]
      | some y => rw [Option.map_some, mapGet_cons, if_neg hxa, ih]; simp only [hmem]

end ArgMapper
