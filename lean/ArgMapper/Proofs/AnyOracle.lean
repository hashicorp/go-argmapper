import ArgMapper.Proofs.CompleteLegalSingle
import ArgMapper.Proofs.ErrorProp
/-!
# After the repair of F22 the oracle need not be legal (helper lemmas for C05d)

In `C01.stdCtx` an R6 hop copies the value (`hopCopies := true`), so the vertex a walk has just processed always
holds a value (`Complete.PrevP`) and nothing is asked of the oracle's paths beyond their being usable; before the
repair a path ending `…, value, value, arg` (`WalkPanic.PathGood` excludes it) left the argument vertex empty.
-/
namespace ArgMapper.AnyOracle
open ArgMapper WalkPanic CompleteLegal

/-- A function's error reported by `Call` was returned by an execution of this call or sat in a memo cell at
its start (`ErrorProp.callWith_eff`); if no body reports an error and no memo cell holds one, neither can be,
so `callWith` never ends in `convErr` or `targetErr`.  Every graph, every oracle. -/
theorem callWith_no_func_err {c : Ctx} (hne : Complete.NE c) (cgr : CallGraphResult) (target : FuncDesc)
    (fuel : Nat) (s0 : CallSt) (hs : ∀ p ∈ s0.memo, p.2.res.err = none) :
    (∀ ε, (callWith c cgr target fuel s0).1 ≠ .convErr ε) ∧
    (∀ ε r, (callWith c cgr target fuel s0).1 ≠ .targetErr ε r) := by
  obtain ⟨app, _, hb, hp⟩ := ErrorProp.callWith_eff c cgr target fuel s0
  have hno : ∀ ε, ¬ ErrorProp.Failed s0.memo app ε := by
    rintro ε (⟨init, ev, rfl, _, he⟩ | ⟨_, p, hp, he⟩)
    · obtain ⟨n, args, hr⟩ := hb ev (by simp)
      rw [hr, hne] at he; cases he
    · rw [hs p hp] at he; cases he
  constructor
  · intro ε h; rw [h] at hp; exact hno ε hp
  · intro ε r h; rw [h] at hp; exact hno ε hp.2

section
variable {e : TypeEnv} {b : Builder} {funcs : Nat → Option FuncDesc} {target : FuncDesc}

/-- clause (a), full label language, every oracle (`CompleteLegal.single_core`): when no body reports an error
and the memo table is empty, the call succeeds unless the oracle does not fit -/
theorem stable_core (H : WalkPanic.Hyps e b funcs target) (beh : Nat → Nat → List PVal → BehOut)
    (hne : ∀ f n a, (beh f n a).err = none)
    (hsi : ∀ f ∈ b.convs.filterMap funcs, f.input.values.length ≤ 1)
    (hkey : ∀ f ∈ b.convs.filterMap funcs, f.key ≠ target.key)
    (hsat : (callGraph {} e b funcs target false none).unsat = [])
    (fuel : Nat)
    (hfuel : ((callGraph {} e b funcs target false none).cg.g.verts.filter Vtx.isFunc).length + 1 ≤ fuel)
    (orc : List OrcItem)
    (hb : ∀ w, (callWith (C01.stdCtx e b funcs target beh) (callGraph {} e b funcs target false none) target fuel
              (initSt (callGraph {} e b funcs target false none).cg [] orc)).1 ≠ .badOracle w) :
    ∃ res, (callWith (C01.stdCtx e b funcs target beh) (callGraph {} e b funcs target false none) target fuel
              (initSt (callGraph {} e b funcs target false none).cg [] orc)).1 = .ok res := by
  obtain ⟨hc1, hc2⟩ := callWith_no_func_err (c := C01.stdCtx e b funcs target beh)
    (fun f n a => hne f n a) (callGraph {} e b funcs target false none) target fuel
    (initSt (callGraph {} e b funcs target false none).cg [] orc) (fun p hp => by cases hp)
  rcases single_core H beh hsi hkey hsat fuel hfuel [] orc with h | ⟨ε, h⟩ | ⟨ε, r, h⟩ | ⟨w, h⟩
  · exact h
  · exact absurd h (hc1 ε)
  · exact absurd h (hc2 ε r)
  · exact absurd h (hb w)

end

end ArgMapper.AnyOracle
