import ArgMapper.Proofs.GraphSim
/-!
# Object-level representation lemmas: each mutator maps represented objects to represented objects (C19)
-/
namespace ArgMapper
namespace GraphSpec
variable {α : Type} [DecidableEq α]
open AGraph GraphImpl
variable {o i : AdjObj α} {hs : HashObj α} {c : SClass α} {fl : Bool}

theorem clsW_congr {c c' : SClass α} (hW : ∀ a b, c'.g.weight a b = c.g.weight a b) (fl : Bool) (a b : α) :
    clsW c' fl a b = clsW c fl a b := by
  cases fl <;> simp [clsW, hW]

theorem repC_add (h : RepC o i hs c fl)
    (v : α) (tag : Nat) (hv : ¬ v ∈ c.g.verts) :
    RepC (aset o v []) (aset i v []) (aset hs v tag)
      { g := c.g.add v, tags := setTag c.tags v tag, poisoned := c.poisoned } fl := by
  have hV : ∀ x, x ∈ (c.g.add v).verts ↔ x ∈ c.g.verts ∨ x = v := mem_add_verts c.g v
  have hW : ∀ a b, (c.g.add v).weight a b = c.g.weight a b := weight_add c.g v
  refine ⟨?_, ?_, ?_⟩
  · exact (h.out.addV v hv hV).congr (fun _ => Iff.rfl)
      (fun a b => clsW_congr (c' := ⟨c.g.add v, _, _⟩) hW fl a b)
  · exact (h.inn.addV v hv hV).congr (fun _ => Iff.rfl)
      (fun a b => clsW_congr (c' := ⟨c.g.add v, _, _⟩) hW fl b a)
  · exact h.hash.set v tag hV (fun x => aget_setTag c.tags v tag x)

theorem repC_addow_present (h : RepC o i hs c fl)
    (v : α) (tag : Nat) (hv : v ∈ c.g.verts) :
    RepC o i (aset hs v tag)
      { g := c.g.add v, tags := setTag c.tags v tag, poisoned := c.poisoned } fl := by
  have hV : ∀ x, x ∈ (c.g.add v).verts ↔ x ∈ c.g.verts := by
    intro x; rw [mem_add_verts]
    constructor
    · rintro (e | e)
      · exact e
      · subst e; exact hv
    · exact Or.inl
  have hV' : ∀ x, x ∈ (c.g.add v).verts ↔ x ∈ c.g.verts ∨ x = v := mem_add_verts c.g v
  have hW : ∀ a b, (c.g.add v).weight a b = c.g.weight a b := weight_add c.g v
  refine ⟨?_, ?_, ?_⟩
  · exact h.out.congr hV (fun a b => clsW_congr (c' := ⟨c.g.add v, _, _⟩) hW fl a b)
  · exact h.inn.congr hV (fun a b => clsW_congr (c' := ⟨c.g.add v, _, _⟩) hW fl b a)
  · exact h.hash.set v tag hV' (fun x => aget_setTag c.tags v tag x)

/-- the class after `AddEdge u v wt` through a handle of orientation `fl` -/
def edgeCls (c : SClass α) (fl : Bool) (u v : α) (wt : Int) : SClass α :=
  if fl then { c with g := c.g.addEdge v u wt } else { c with g := c.g.addEdge u v wt }

theorem clsW_edgeCls (c : SClass α) (fl : Bool) (u v : α) (wt : Int) (a b : α) :
    clsW (edgeCls c fl u v wt) fl a b = if a = u ∧ b = v then some wt else clsW c fl a b := by
  cases fl
  · simp [clsW, edgeCls, weight_addEdge]
  · simp only [clsW, edgeCls, if_true, weight_addEdge]
    by_cases h1 : a = u <;> by_cases h2 : b = v <;> simp [h1, h2]

theorem edgeCls_verts (c : SClass α) (fl : Bool) (u v : α) (wt : Int) :
    (edgeCls c fl u v wt).g.verts = c.g.verts := by
  cases fl <;> rfl

theorem repC_edge (h : RepC o i hs c fl)
    (u v : α) (wt : Int) (x y : Inner α) (hx : aget o u = some x) (hy : aget i v = some y) :
    RepC (aset o u (aset x v wt)) (aset i v (aset y u wt)) hs (edgeCls c fl u v wt) fl := by
  refine ⟨?_, ?_, ?_⟩
  · rw [edgeCls_verts]
    exact h.out.setE u v wt x hx (clsW_edgeCls c fl u v wt)
  · rw [edgeCls_verts]
    refine h.inn.setE v u wt y hy (fun a b => ?_)
    rw [clsW_edgeCls]
    by_cases h1 : a = v <;> by_cases h2 : b = u <;> simp [h1, h2]
  · cases fl <;> exact h.hash

/-- the class after `RemoveEdge u v` through a handle of orientation `fl` -/
def redgeCls (c : SClass α) (fl : Bool) (u v : α) : SClass α :=
  if fl then { c with g := c.g.removeEdge v u } else { c with g := c.g.removeEdge u v }

theorem clsW_redgeCls (c : SClass α) (fl : Bool) (u v : α) (a b : α) :
    clsW (redgeCls c fl u v) fl a b = if a = u ∧ b = v then none else clsW c fl a b := by
  cases fl
  · simp [clsW, redgeCls, weight_removeEdge]
  · simp only [clsW, redgeCls, if_true, weight_removeEdge]
    by_cases h1 : a = u <;> by_cases h2 : b = v <;> simp [h1, h2]

theorem redgeCls_verts (c : SClass α) (fl : Bool) (u v : α) :
    (redgeCls c fl u v).g.verts = c.g.verts := by
  cases fl <;> rfl

theorem repC_redge (h : RepC o i hs c fl)
    (u v : α) :
    RepC (delInner o u v) (delInner i v u) hs (redgeCls c fl u v) fl := by
  refine ⟨?_, ?_, ?_⟩
  · rw [redgeCls_verts]
    exact h.out.delE u v (clsW_redgeCls c fl u v)
  · rw [redgeCls_verts]
    refine h.inn.delE v u (fun a b => ?_)
    rw [clsW_redgeCls]
    by_cases h1 : a = v <;> by_cases h2 : b = u <;> simp [h1, h2]
  · cases fl <;> exact h.hash

theorem clsW_remove (c : SClass α) (fl : Bool) (v : α) (tg : List (α × Nat)) (p : Bool) (a b : α) :
    clsW ⟨c.g.remove v, tg, p⟩ fl a b = if a = v ∨ b = v then none else clsW c fl a b := by
  cases fl
  · simp [clsW, weight_remove]
  · simp only [clsW, if_true, weight_remove]
    by_cases h1 : a = v <;> by_cases h2 : b = v <;> simp [h1, h2]

theorem repC_remove (h : RepC o i hs c fl)
    (v : α) :
    let i1 := (akeys ((aget o v).getD [])).foldl (fun m x => delInner m x v) i
    let o1 := adel o v
    let o2 := (akeys ((aget i1 v).getD [])).foldl (fun m x => delInner m x v) o1
    RepC o2 (adel i1 v) (adel hs v)
      { g := c.g.remove v, tags := c.tags.filter (fun p => !decide (p.1 = v)), poisoned := c.poisoned } fl := by
  intro i1 o1 o2
  have hV : ∀ x, x ∈ (c.g.remove v).verts ↔ x ∈ c.g.verts ∧ x ≠ v := mem_remove_verts c.g v
  -- the successors of `v` are the keys whose predecessor lists mention `v`, and conversely
  have hi1 : Half i1 (· ∈ c.g.verts) (fun a b => if b = v then none else clsW c fl b a) :=
    h.inn.delInners_all (fun a ha => (h.out.mem_succ_keys v a).2 ha) (fun a b => rfl)
  have ho1 : Half o1 (· ∈ (c.g.remove v).verts) (fun a b => if a = v then none else clsW c fl a b) :=
    h.out.adel v hV (fun a b => rfl)
  have ho2 : Half o2 (· ∈ (c.g.remove v).verts)
      (fun a b => if b = v then none else if a = v then none else clsW c fl a b) :=
    ho1.delInners_all (fun a ha => (hi1.mem_succ_keys v a).2 ha) (fun a b => rfl)
  have hi2 : Half (adel i1 v) (· ∈ (c.g.remove v).verts)
      (fun a b => if a = v then none else if b = v then none else clsW c fl b a) :=
    hi1.adel v hV (fun a b => rfl)
  refine ⟨ho2.congr (fun _ => Iff.rfl) (fun a b => ?_), hi2.congr (fun _ => Iff.rfl) (fun a b => ?_),
    h.hash.del v hV (aget_adel c.tags v)⟩ <;>
  · rw [clsW_remove]
    by_cases ha : a = v <;> by_cases hb : b = v <;> simp [ha, hb]

end GraphSpec
end ArgMapper
