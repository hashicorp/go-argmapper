import ArgMapper.Props.C05
import ArgMapper.Proofs.RedefineInputs
/-!
# Counterexamples to the original statement of `C08.callable_graph` (helper file for C08c)

Both scenarios satisfy every hypothesis of the original statement (no converters, no subtypes, an oracle of
root-first real paths, fuel 5); the planning run of `Redefine` succeeds, and the `Call` graph built for the
original options plus one value per declared input still lists a parameter as unsatisfied.

1. a parameter name that is not lower-case (`"A"`): the redefined function passes `Named("A", v)`, `setNamed`
   stores it under `lower "A" = "a"`, the supplied vertex is `value "a" 1`, the parameter's is `value "A" 1`.
   The model's `FuncDesc` holds arbitrary labels; `newFunc` only produces lower-case names (`fieldLabel`).
2. a name with two types: the caller supplied `a : T1`, the target has parameters `a : T1` and `a : T2`.
   The planning run takes `a : T1` as it is and declares `a : T2`; `Named("a", v₂)` then *overwrites* the
   caller's `a : T1` in the named map, and the parameter `a : T1` is unsatisfied.  Outside the property's
   premise ("each name one type", `NamesSingleType`).
-/
namespace ArgMapper.CallableCE
open ArgMapper

def e0 : TypeEnv := ⟨fun _ => false, fun _ _ => false⟩
def sv (n : String) (t : Nat) (i : Nat) : SVal := ⟨⟨n, t, ""⟩, i⟩
def noFuncs : Nat → Option FuncDesc := fun _ => none
def ctx (b : Builder) (target : FuncDesc) : Ctx :=
  { env := e0, g := (callGraph {} e0 b noFuncs target true none).cg.g,
    funcOf := fun k => (C01.allFuncs b noFuncs target).find? (fun f => f.key == k), beh := zeroBeh (fun _ => 0) }

/-! ### 1. a name that is not lower-case -/

/-- target `func(struct{ A T1 })` with the label name left in upper case -/
def tgt1 : FuncDesc := ⟨0, 0, ⟨true, 0, [sv "A" 1 0], [("A", sv "A" 1 0)], [], false⟩, ValueSet.nil, false, false⟩
def orc1 : List OrcItem := [⟨.func 0, [.value "A" 1 ""], [[.root, .value "A" 1 ""]]⟩]

theorem consistent1 : C01.FuncsConsistent (C01.allFuncs Builder.empty noFuncs tgt1) := by
  unfold C01.FuncsConsistent ValueSet.KeysOK; decide +kernel

theorem labels1 : C05.SubtypeFree Builder.empty (C01.allFuncs Builder.empty noFuncs tgt1) := by
  unfold C05.SubtypeFree; decide +kernel

theorem run1 :
    redefine (ctx Builder.empty tgt1) (callGraph {} e0 Builder.empty noFuncs tgt1 true none) tgt1 none 5
      (initSt (callGraph {} e0 Builder.empty noFuncs tgt1 true none).cg [] orc1) = .ok [⟨"A", 1, ""⟩] ∧
    (callGraph {} e0 (C08.withDeclared Builder.empty [⟨"A", 1, ""⟩] (fun _ => 7)) noFuncs tgt1 false none).unsat
      = [⟨"A", 1, ""⟩] := by
  decide +kernel

/-! ### 2. a supplied name with a second type -/

/-- target `func(struct{ a T1; a' T2 })`, both parameters named `a` -/
def tgt2 : FuncDesc :=
  ⟨0, 0, ⟨true, 0, [sv "a" 1 0, sv "a" 2 1], [("a", sv "a" 2 1)], [], false⟩, ValueSet.nil, false, false⟩
def b2 : Builder := { Builder.empty with named := [("a", ⟨1, 5⟩)] }
def orc2 : List OrcItem := [⟨.func 0, [.value "a" 2 ""], [[.root, .value "a" 2 ""]]⟩]

theorem consistent2 : C01.FuncsConsistent (C01.allFuncs b2 noFuncs tgt2) := by
  unfold C01.FuncsConsistent ValueSet.KeysOK; decide +kernel

theorem labels2 : C05.SubtypeFree b2 (C01.allFuncs b2 noFuncs tgt2) := by
  unfold C05.SubtypeFree; decide +kernel

theorem run2 :
    redefine (ctx b2 tgt2) (callGraph {} e0 b2 noFuncs tgt2 true none) tgt2 none 5
      (initSt (callGraph {} e0 b2 noFuncs tgt2 true none).cg [] orc2) = .ok [⟨"a", 2, ""⟩] ∧
    (callGraph {} e0 (C08.withDeclared b2 [⟨"a", 2, ""⟩] (fun _ => 7)) noFuncs tgt2 false none).unsat
      = [⟨"a", 1, ""⟩] := by
  decide +kernel

end ArgMapper.CallableCE
