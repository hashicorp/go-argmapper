import ArgMapper.Model.Reach
import ArgMapper.Proofs.Maps
import ArgMapper.Proofs.Lists
/-!
# One step of `reach`, by cases

`reach` at fuel `n + 1` first splits the target's requirements into those it skips and those it has to
resolve, takes an oracle item, plans, and hands over to `walkPaths`.  The ingredients get names here and
`reach_succ` says which of four forms the result has, so that an induction over `reach` never unfolds it.
-/
namespace ArgMapper.ReachEqs
open ArgMapper

def skipped (c : Ctx) (s : CallSt) (target : Vtx) : List Vtx :=
  (c.g.outs target).filter (fun v => v == Vtx.root || takenAsIs c s v)

def missing (c : Ctx) (s : CallSt) (target : Vtx) : List Vtx :=
  (c.g.outs target).filter (fun v => !(v == Vtx.root || takenAsIs c s v))

/-- the argument map before any path is walked: the skipped requirements with their values -/
def am0 (c : Ctx) (s : CallSt) (target : Vtx) : ArgMap :=
  (skipped c s target).filterMap (fun v => if v == Vtx.root then none else (s.get v).map (fun x => (v, x)))

def afterSkip (c : Ctx) (s : CallSt) (target : Vtx) : CallSt :=
  if c.skipRecordsInput then (skipped c s target).foldl CallSt.addInput s else s

def nextItem (c : Ctx) (s : CallSt) (target : Vtx) : Option (OrcItem × List OrcItem) :=
  match (afterSkip c s target).orc with
  | item :: rest => some (item, rest)
  | [] => if c.auto then some (autoItem c.g target (missing c s target), []) else none

/-- what `reach` checks of an oracle item before it plans -/
structure ItemOK (c : Ctx) (s : CallSt) (target : Vtx) (item : OrcItem) : Prop where
  tgt : item.target = target
  members : sameMembers item.missing (missing c s target) = true
  nonempty : (missing c s target).isEmpty = false
  len : item.paths.length = item.missing.length
  valid : ∀ cp ∈ item.missing.zip item.paths, validPath c.g cp.1 cp.2 = true

def plan (c : Ctx) (redefine : Bool) (reaching : List Vtx) (target : Vtx) (item : OrcItem) (s : CallSt) : PlanSt :=
  (item.missing.zip item.paths).foldl (planOne target (target :: reaching) c.trackReaching redefine)
    { s := s, unsat := [] }

/-! ### the requirements -/

theorem mem_skipped {c : Ctx} {s : CallSt} {target v : Vtx} :
    v ∈ skipped c s target ↔ v ∈ c.g.outs target ∧ (v = .root ∨ takenAsIs c s v = true) := by
  simp [skipped]

theorem mem_missing {c : Ctx} {s : CallSt} {target v : Vtx} :
    v ∈ missing c s target ↔ v ∈ c.g.outs target ∧ v ≠ .root ∧ takenAsIs c s v = false := by
  simp [missing]

theorem skipped_or_missing {c : Ctx} (s : CallSt) {target v : Vtx} (h : v ∈ c.g.outs target) :
    v ∈ skipped c s target ∨ v ∈ missing c s target := by
  rw [mem_skipped, mem_missing]
  by_cases hr : v = .root
  · exact .inl ⟨h, .inl hr⟩
  · cases ht : takenAsIs c s v
    · exact .inr ⟨h, hr, rfl⟩
    · exact .inl ⟨h, .inr rfl⟩

theorem isSome_of_takenAsIs {c : Ctx} {s : CallSt} {v : Vtx} (h : takenAsIs c s v = true) :
    (s.get v).isSome = true := by
  cases v <;> simp_all [takenAsIs]

theorem mapGet_am0 (c : Ctx) (s : CallSt) (target x : Vtx) :
    mapGet (am0 c s target) x = if x ∈ skipped c s target ∧ x ≠ Vtx.root then s.get x else none := by
  have h := mapGet_filterMap (fun v => if v == Vtx.root then none else s.get v) x (skipped c s target)
  have hf : (fun v => (if v == Vtx.root then none else s.get v).map (fun y => (v, y))) =
      fun v => if v == Vtx.root then none else (s.get v).map (fun y => (v, y)) := by
    funext v; split <;> rfl
  rw [hf] at h
  rw [am0, h]
  by_cases hr : x = Vtx.root <;> simp [hr]

theorem am0_get {c : Ctx} {s : CallSt} {target x : Vtx} {a : PVal} (h : mapGet (am0 c s target) x = some a) :
    s.get x = some a := by
  rw [mapGet_am0] at h
  split at h
  · exact h
  · cases h

theorem am0_isSome {c : Ctx} {s : CallSt} {target y : Vtx} (h : y ∈ skipped c s target) (hr : y ≠ .root) :
    (mapGet (am0 c s target) y).isSome = true := by
  rw [mapGet_am0, if_pos ⟨h, hr⟩]
  exact isSome_of_takenAsIs ((mem_skipped.1 h).2.resolve_left hr)

/-! ### the oracle item -/

section ItemOK
variable {c : Ctx} {s : CallSt} {target : Vtx} {item : OrcItem} (ok : ItemOK c s target item)
include ok

theorem ItemOK.mem_iff (v : Vtx) : v ∈ item.missing ↔ v ∈ missing c s target := by
  have h := ok.members
  simp only [sameMembers, Bool.and_eq_true, List.all_eq_true, decide_eq_true_eq] at h
  exact ⟨h.1.1 v, h.1.2 v⟩

theorem ItemOK.fst_missing {cp : Vtx × List Vtx} (h : cp ∈ item.missing.zip item.paths) :
    cp.1 ∈ missing c s target :=
  (ok.mem_iff _).1 (List.of_mem_zip h).1

theorem ItemOK.path_of_missing {y : Vtx} (h : y ∈ missing c s target) :
    ∃ p, p ∈ item.paths ∧ (y, p) ∈ item.missing.zip item.paths := by
  obtain ⟨p, hp⟩ := exists_zip_of_mem _ item.paths (Nat.le_of_eq ok.len.symm) y ((ok.mem_iff y).2 h)
  exact ⟨p, (List.of_mem_zip hp).2, hp⟩

theorem ItemOK.req_of_path {p : List Vtx} (h : p ∈ item.paths) :
    ∃ cur, cur ∈ missing c s target ∧ (cur, p) ∈ item.missing.zip item.paths := by
  obtain ⟨cur, h1, h2⟩ := zip_snd_mem _ _ ok.len p h
  exact ⟨cur, (ok.mem_iff cur).1 h1, h2⟩

end ItemOK

/-! ### what the steps before the walk leave alone -/

theorem addInput_frame (s : CallSt) (v : Vtx) : ∃ ins, s.addInput v = { s with inputSet := ins } := by
  unfold CallSt.addInput
  split
  · exact ⟨s.inputSet, rfl⟩
  · exact ⟨_, rfl⟩

theorem foldl_addInput_frame (l : List Vtx) (s : CallSt) :
    ∃ ins, l.foldl CallSt.addInput s = { s with inputSet := ins } := by
  induction l generalizing s with
  | nil => exact ⟨s.inputSet, rfl⟩
  | cons v l ih =>
    obtain ⟨i1, h1⟩ := addInput_frame s v
    obtain ⟨i2, h2⟩ := ih (s.addInput v)
    exact ⟨i2, by rw [List.foldl_cons, h2, h1]⟩

theorem afterSkip_frame (c : Ctx) (s : CallSt) (target : Vtx) :
    ∃ ins, afterSkip c s target = { s with inputSet := ins } := by
  unfold afterSkip
  split
  · exact foldl_addInput_frame _ s
  · exact ⟨s.inputSet, rfl⟩

theorem planOne_frame (target : Vtx) (reaching : List Vtx) (tr rd : Bool) (ps : PlanSt) (cp : Vtx × List Vtx) :
    ∃ st ins, (planOne target reaching tr rd ps cp).s = { ps.s with store := st, inputSet := ins } := by
  unfold planOne
  dsimp only
  split
  · exact ⟨_, _, rfl⟩
  · rename_i input _
    obtain ⟨i1, h1⟩ := addInput_frame ps.s input
    dsimp only
    rw [h1]
    split
    · split
      · split
        · exact ⟨_, _, rfl⟩
        · exact ⟨_, _, rfl⟩
      · exact ⟨_, _, rfl⟩
      · exact ⟨_, _, rfl⟩
    · exact ⟨_, _, rfl⟩

theorem plan_frame (c : Ctx) (rd : Bool) (reaching : List Vtx) (target : Vtx) (item : OrcItem) (s : CallSt) :
    ∃ st ins, (plan c rd reaching target item s).s = { s with store := st, inputSet := ins } := by
  unfold plan
  generalize hps : ({ s := s, unsat := [] } : PlanSt) = ps
  have h0 : ∃ st ins, ps.s = { s with store := st, inputSet := ins } := by subst hps; exact ⟨_, _, rfl⟩
  clear hps
  induction item.missing.zip item.paths generalizing ps with
  | nil => exact h0
  | cons cp l ih =>
    rw [List.foldl_cons]
    apply ih
    obtain ⟨st, ins, h⟩ := h0
    obtain ⟨st', ins', h'⟩ := planOne_frame target (target :: reaching) c.trackReaching rd ps cp
    exact ⟨st', ins', by rw [h', h]⟩

inductive Step (c : Ctx) (redefine : Bool) (n : Nat) (reaching : List Vtx) (target : Vtx) (s : CallSt) :
    Except RErr ArgMap × CallSt → Prop
  /-- the oracle is exhausted or its item does not fit: only `inputSet` and `orc` have changed -/
  | badOracle (w : String) (orc : List OrcItem) :
      Step c redefine n reaching target s (.error (.badOracle w), { afterSkip c s target with orc := orc })
  | nothingMissing (item : OrcItem) (rest : List OrcItem) (hi : nextItem c s target = some (item, rest))
      (hm : missing c s target = []) :
      Step c redefine n reaching target s (.ok (am0 c s target), { afterSkip c s target with orc := rest })
  | unsat (item : OrcItem) (rest : List OrcItem) (hi : nextItem c s target = some (item, rest))
      (ok : ItemOK c s target item)
      (hu : (plan c redefine reaching target item { afterSkip c s target with orc := rest }).unsat.isEmpty = false) :
      Step c redefine n reaching target s
        (.error (.unsat (plan c redefine reaching target item { afterSkip c s target with orc := rest }).unsat),
         (plan c redefine reaching target item { afterSkip c s target with orc := rest }).s)
  | walk (item : OrcItem) (rest : List OrcItem) (hi : nextItem c s target = some (item, rest))
      (ok : ItemOK c s target item)
      (hu : (plan c redefine reaching target item { afterSkip c s target with orc := rest }).unsat = []) :
      Step c redefine n reaching target s
        (walkPaths c (fun v st => reach c redefine n (target :: reaching) v st) item.paths (am0 c s target)
          (plan c redefine reaching target item { afterSkip c s target with orc := rest }).s)

theorem reach_zero (c : Ctx) (redefine : Bool) (reaching : List Vtx) (target : Vtx) (s : CallSt) :
    reach c redefine 0 reaching target s = (.error .outOfFuel, s) := rfl

theorem reach_succ (c : Ctx) (redefine : Bool) (n : Nat) (reaching : List Vtx) (target : Vtx) (s : CallSt) :
    Step c redefine n reaching target s (reach c redefine (n + 1) reaching target s) := by
  unfold reach
  show Step c redefine n reaching target s (match nextItem c s target with
    | none => (.error (.badOracle "exhausted"), afterSkip c s target)
    | some (item, orcRest) =>
      if item.target ≠ target then
        (.error (.badOracle "target"), { afterSkip c s target with orc := orcRest })
      else if !sameMembers item.missing (missing c s target) then
        (.error (.badOracle "missing"), { afterSkip c s target with orc := orcRest })
      else if (missing c s target).isEmpty then (.ok (am0 c s target), { afterSkip c s target with orc := orcRest })
      else if item.paths.length ≠ item.missing.length then
        (.error (.badOracle "paths"), { afterSkip c s target with orc := orcRest })
      else if !(item.missing.zip item.paths).all (fun cp => validPath c.g cp.1 cp.2) then
        (.error (.badOracle "path"), { afterSkip c s target with orc := orcRest })
      else if !(plan c redefine reaching target item { afterSkip c s target with orc := orcRest }).unsat.isEmpty then
        (.error (.unsat (plan c redefine reaching target item { afterSkip c s target with orc := orcRest }).unsat),
          (plan c redefine reaching target item { afterSkip c s target with orc := orcRest }).s)
      else walkPaths c (fun v st => reach c redefine n (target :: reaching) v st) item.paths (am0 c s target)
        (plan c redefine reaching target item { afterSkip c s target with orc := orcRest }).s)
  cases hi : nextItem c s target with
  | none => exact .badOracle "exhausted" (afterSkip c s target).orc
  | some p =>
    obtain ⟨item, rest⟩ := p
    dsimp only
    by_cases h1 : item.target ≠ target
    · rw [if_pos h1]; exact .badOracle _ _
    by_cases h2 : (!sameMembers item.missing (missing c s target)) = true
    · rw [if_neg h1, if_pos h2]; exact .badOracle _ _
    by_cases h3 : (missing c s target).isEmpty = true
    · rw [if_neg h1, if_neg h2, if_pos h3]
      exact .nothingMissing item rest hi (List.isEmpty_iff.1 h3)
    by_cases h4 : item.paths.length ≠ item.missing.length
    · rw [if_neg h1, if_neg h2, if_neg h3, if_pos h4]; exact .badOracle _ _
    by_cases h5 : (!(item.missing.zip item.paths).all (fun cp => validPath c.g cp.1 cp.2)) = true
    · rw [if_neg h1, if_neg h2, if_neg h3, if_neg h4, if_pos h5]; exact .badOracle _ _
    rw [if_neg h1, if_neg h2, if_neg h3, if_neg h4, if_neg h5]
    have ok : ItemOK c s target item :=
      ⟨Decidable.not_not.1 h1, by simpa using h2, by simpa using h3, Decidable.not_not.1 h4,
       by simpa [List.all_eq_true] using h5⟩
    by_cases hu : (!(plan c redefine reaching target item { afterSkip c s target with orc := rest }).unsat.isEmpty) = true
    · rw [if_pos hu]; exact .unsat item rest hi ok (by simpa using hu)
    · rw [if_neg hu]; exact .walk item rest hi ok (by simpa using hu)

/-! ### `callWith`, by cases -/

def outcomeOfErr : RErr → Outcome
  | .unsat a => .unsat a false
  | .funcErr e => .convErr e
  | .missingArg => .missingArg
  | .panic k => .panic k
  | .outOfFuel => .outOfFuel
  | .badOracle w => .badOracle w

inductive CallStep (c : Ctx) (cgr : CallGraphResult) (target : FuncDesc) (fuel : Nat) (s0 : CallSt) :
    Outcome × CallSt → Prop
  | graphUnsat (hu : cgr.unsat.isEmpty = false) : CallStep c cgr target fuel s0 (.unsat cgr.unsat true, s0)
  | reachErr (hu : cgr.unsat = []) {e : RErr} {s : CallSt}
      (hr : reach c false fuel [] cgr.target s0 = (.error e, s)) :
      CallStep c cgr target fuel s0 (outcomeOfErr e, s)
  | directErr (hu : cgr.unsat = []) {am : ArgMap} {s : CallSt}
      (hr : reach c false fuel [] cgr.target s0 = (.ok am, s)) {e : RErr} {s2 : CallSt}
      (hc : callDirect c target am s = (.error e, s2)) :
      CallStep c cgr target fuel s0 ((match e with | .panic k => .panic k | _ => .missingArg), s2)
  | executed (hu : cgr.unsat = []) {am : ArgMap} {s : CallSt}
      (hr : reach c false fuel [] cgr.target s0 = (.ok am, s)) {r : BehOut} {unw : Bool} {s2 : CallSt}
      (hc : callDirect c target am s = (.ok (r, unw), s2)) :
      CallStep c cgr target fuel s0 ((match r.err with | some e => .targetErr e r | none => .ok r), s2)

theorem callWith_cases (c : Ctx) (cgr : CallGraphResult) (target : FuncDesc) (fuel : Nat) (s0 : CallSt) :
    CallStep c cgr target fuel s0 (callWith c cgr target fuel s0) := by
  unfold callWith
  split
  · rename_i hu
    exact .graphUnsat (by simpa using hu)
  · rename_i hu
    have hu : cgr.unsat = [] := by simpa using hu
    rcases hr : reach c false fuel [] cgr.target s0 with ⟨e | am, s⟩
    · cases e <;> exact .reachErr hu hr
    · dsimp only
      rcases hc : callDirect c target am s with ⟨e | ⟨r, unw⟩, s2⟩
      · have := CallStep.directErr hu hr hc
        cases e <;> exact this
      · have := CallStep.executed hu hr hc
        dsimp only
        cases hre : r.err <;> rw [hre] at this <;> exact this

theorem callWith_graphUnsat (c : Ctx) {cgr : CallGraphResult} (target : FuncDesc) (fuel : Nat) (s0 : CallSt)
    (h : cgr.unsat ≠ []) : callWith c cgr target fuel s0 = (.unsat cgr.unsat true, s0) := by
  unfold callWith
  rw [if_pos]
  cases hu : cgr.unsat with
  | nil => exact absurd hu h
  | cons _ _ => rfl

end ArgMapper.ReachEqs
