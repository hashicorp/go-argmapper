import ArgMapper.Model.Hist
import ArgMapper.Props.C01b
/-!
# Counterexamples to the original statements of `C01.no_fabrication_call` / `C01.no_fabrication_hist`

One scenario, three variations.  Types `A = 1`, `C = 3`; target `func(C)` (object 0), converter
`func(A) C` (object 1), `Typed(A{…})` supplied with provenance id `10`; the only path to the target's
parameter runs through the converter.

* `convBad`: the converter's output set is not one `newFunc` builds — its typed lookup map points to a value
  with struct index 5, which is not in its value list.  `resultField` finds no entry and writes the zero value
  (id `0`): the target receives an id nobody supplied or returned, although every body returns one id per
  output value (`BehFull`).
* a run-once converter whose cell (state `h`) holds a result with *no* ids: `resultField` falls back to
  the zero value again.  `BehFull` speaks about the bodies of this call only, not about what is in the cells.
* the same cell, produced by an earlier call of a history whose bodies returned too few ids.

With the good converter, an empty cell table and full bodies the target receives the converter's output
(`good_log`: the hypotheses of the corrected theorems are satisfiable and the log is not empty).
-/
namespace ArgMapper.NoFabCE
open ArgMapper

def e0 : TypeEnv := ⟨fun _ => false, fun _ _ => false⟩
def tv (t i : Nat) : SVal := ⟨⟨"", t, ""⟩, i⟩

/-- the lifted sets of `(C)` and `(A)` -/
def setC : ValueSet := ⟨true, 0, [tv 3 0], [], [(3, tv 3 0)], true⟩
def setA : ValueSet := ⟨true, 0, [tv 1 0], [], [(1, tv 1 0)], true⟩
/-- not a set of the real code: the typed map holds a value (index 5) that is not in the value list -/
def badC : ValueSet := ⟨true, 0, [tv 3 0], [], [(3, tv 3 5)], true⟩

def tgt : FuncDesc := ⟨0, 0, setC, ValueSet.nil, false, false⟩
def conv (once : Bool) : FuncDesc := ⟨1, 1, setA, setC, false, once⟩
def convBad : FuncDesc := ⟨1, 1, setA, badC, false, false⟩

def funcs (f : FuncDesc) : Nat → Option FuncDesc := fun i => if i = 1 then some f else none
def b : Builder := { Builder.empty with typed := [(1, ⟨1, 10⟩)], convs := [1] }

/-- one id per output value: the converter returns `[7]`, the target nothing -/
def behFull : Nat → Nat → List PVal → BehOut := fun i _ _ => if i = 1 then ⟨[7], none⟩ else ⟨[], none⟩
/-- too few: nobody returns anything -/
def behShort : Nat → Nat → List PVal → BehOut := fun _ _ _ => ⟨[], none⟩

def orc : List OrcItem :=
  [⟨.func 0, [.arg 3 ""], [[.root, .out 1 "", .arg 1 "", .func 1, .out 3 "", .arg 3 ""]]⟩,
   ⟨.func 1, [], []⟩]

def ctx (f : FuncDesc) (beh : Nat → Nat → List PVal → BehOut) : Ctx := C01.stdCtx e0 b (funcs f) tgt beh
def cgr (f : FuncDesc) : CallGraphResult := callGraph {} e0 b (funcs f) tgt false none

theorem funcOf_mem (f g : FuncDesc) (beh : Nat → Nat → List PVal → BehOut) (k : Nat)
    (h : (ctx f beh).funcOf k = some g) : g = tgt ∨ g = f := by
  have hm := List.mem_of_find?_eq_some h
  have hl : C01.allFuncs b (funcs f) tgt = [tgt, f] := rfl
  rw [hl] at hm
  simpa using hm

/-- the supplied ids -/
theorem supplied : (cgr (conv true)).cg.store.map (fun p => p.2.id) = [10] ∧
    (cgr convBad).cg.store.map (fun p => p.2.id) = [10] := by
  decide +kernel

/-! ### 1. an output set whose lookup map is not backed by its value list -/

/-- the conclusion of `no_fabrication_call` fails for the call with `convBad` (fresh function objects) -/
theorem bad_set_fabricates :
    ¬ ∀ ev ∈ (histCall (ctx convBad behFull) (cgr convBad) tgt 5 {} orc).2.log, ∀ a ∈ ev.args,
      a.id ∈ (cgr convBad).cg.store.map (fun p => p.2.id) ∨
      (∃ p ∈ ({} : HistState).memo, a.id ∈ p.2.res.outs) ∨
      ∃ ev' ∈ (histCall (ctx convBad behFull) (cgr convBad) tgt 5 {} orc).2.log, a.id ∈ ev'.res.outs := by
  decide +kernel

/-! ### 2. a run-once cell that holds too few ids -/

def hShort : HistState := { memo := [(1, ⟨⟨[], none⟩, false⟩)] }

theorem short_cell_fabricates :
    ¬ ∀ ev ∈ (histCall (ctx (conv true) behFull) (cgr (conv true)) tgt 5 hShort orc).2.log, ∀ a ∈ ev.args,
      a.id ∈ (cgr (conv true)).cg.store.map (fun p => p.2.id) ∨
      (∃ p ∈ hShort.memo, a.id ∈ p.2.res.outs) ∨
      ∃ ev' ∈ (histCall (ctx (conv true) behFull) (cgr (conv true)) tgt 5 hShort orc).2.log,
        a.id ∈ ev'.res.outs := by
  decide +kernel

/-! ### 3. the same cell, left by an earlier call whose bodies returned too few ids -/

def pre : List HistOp := [.call (ctx (conv true) behShort) (cgr (conv true)) tgt orc]

/-- the log of the observations of a history (as `C01.histLog`) -/
def obsLog (obs : List HistObs) : List ExecEv :=
  obs.flatMap (fun o => match o with | .call _ l => l | .redef _ => [])

theorem short_history_fabricates :
    ¬ ∀ ev ∈ (histCall (ctx (conv true) behFull) (cgr (conv true)) tgt 5 (runHist 5 {} pre).1 orc).2.log,
      ∀ a ∈ ev.args,
      a.id ∈ (cgr (conv true)).cg.store.map (fun p => p.2.id) ∨
      ∃ ev' ∈ obsLog (runHist 5 {} pre).2 ++
          (histCall (ctx (conv true) behFull) (cgr (conv true)) tgt 5 (runHist 5 {} pre).1 orc).2.log,
        a.id ∈ ev'.res.outs := by
  decide +kernel

/-! ### the good scenario -/

theorem good_log :
    ((histCall (ctx (conv true) behFull) (cgr (conv true)) tgt 5 {} orc).2.log.map (fun ev => ev.args.map (·.id)))
      = [[10], [7]] := by
  decide +kernel

end ArgMapper.NoFabCE
