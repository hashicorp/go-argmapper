import ArgMapper.Proofs.RedefStatic
/-!
# The unpruned `Call` graph is monotone in the supplied values (helper lemmas for C08c)

With every phase of `callGraph` before `prune` written as a run of elementary operations computed from
the vertex set of the phase's input (`CallGraphRun`), a graph with more vertices and edges gives, after
the same phase, more vertices and edges (`Sub`).  Rule R6 is the only phase whose selection depends on
the value store (antitonically: "has no value"); on a graph without subtype-carrying value vertices it
selects no pair.

Result: `pre_mono` — for two builders with the same converters, the second supplying every vertex the first
supplies, the unpruned graph of a subtype-free scenario is contained in that of the second builder.
-/
namespace ArgMapper.RedefC
open ArgMapper Generated

def Sub (g g' : AGraph Vtx) : Prop :=
  (∀ x ∈ g.verts, x ∈ g'.verts) ∧ (∀ x y, g.hasEdge x y = true → g'.hasEdge x y = true)

theorem Sub.refl (g : AGraph Vtx) : Sub g g := ⟨fun _ h => h, fun _ _ h => h⟩

theorem run_mono {g g' : AGraph Vtx} (h : Sub g g') {L L' : List Op} (hL : ∀ o ∈ L, o ∈ L') :
    Sub (run L g) (run L' g') := by
  refine ⟨fun x hx => ?_, fun x y hxy => ?_⟩
  · rw [mem_run_verts] at hx ⊢
    rcases hx with hx | hx
    · exact Or.inl (h.1 x hx)
    · exact Or.inr (hL _ hx)
  · rw [run_hasEdge] at hxy ⊢
    rcases hxy with hxy | ⟨w, hw⟩
    · exact Or.inl (h.2 x y hxy)
    · exact Or.inr ⟨w, hL _ hw⟩

/-! ### monotonicity of the phases -/

theorem flatMap_filter_mono {verts verts' : List Vtx} (h : ∀ x ∈ verts, x ∈ verts') (p : Vtx → Bool)
    (f : Vtx → List Op) : ∀ o ∈ (verts.filter p).flatMap f, o ∈ (verts'.filter p).flatMap f := by
  intro o ho
  simp only [List.mem_flatMap, List.mem_filter] at ho ⊢
  obtain ⟨v, ⟨hv, hp⟩, hov⟩ := ho
  exact ⟨v, ⟨h v hv, hp⟩, hov⟩

theorem phaseR3_mono {c c' : CG} (h : Sub c.g c'.g) : Sub (phaseR3 c).g (phaseR3 c').g := by
  rw [phaseR3_run, phaseR3_run]
  exact run_mono h (flatMap_filter_mono h.1 _ _)

theorem phaseR4_mono {c c' : CG} (h : Sub c.g c'.g) : Sub (phaseR4 c).g (phaseR4 c').g := by
  rw [phaseR4_run, phaseR4_run]
  exact run_mono h (flatMap_filter_mono h.1 _ _)

/-- the selection `p` may depend on the graph it runs on (R6 asks the value store): it is enough that it
grows where it matters -/
theorem nested_mono {c c' : CG} (h : Sub c.g c'.g) {p p' : Vtx → Bool} (q : Vtx → Vtx → Bool) (w : Int)
    (hp : ∀ v ∈ c.g.verts, ∀ v2 ∈ c.g.verts, p v = true → q v v2 = true → p' v = true) :
    Sub (nested p q w c).g (nested p' q w c').g := by
  rw [nested_run, nested_run]
  apply run_mono h
  intro o ho
  obtain ⟨v, v2, hv, hpv, hv2, hq, rfl⟩ := mem_nestedOps.1 ho
  exact mem_nestedOps.2 ⟨v, v2, h.1 v hv, hp v hv v2 hv2 hpv hq, h.1 v2 hv2, hq, rfl⟩

theorem phaseR5_mono (e : TypeEnv) (sk : Bool) {c c' : CG} (h : Sub c.g c'.g) :
    Sub (phaseR5 e sk c).g (phaseR5 e sk c').g := by
  rw [phaseR5_eq, phaseR5_eq]
  exact nested_mono h _ _ (fun _ _ _ _ hp _ => hp)

theorem phaseR7_mono {c c' : CG} (h : Sub c.g c'.g) : Sub (phaseR7 c).g (phaseR7 c').g := by
  rw [phaseR7_eq, phaseR7_eq]
  exact nested_mono (nested_mono h _ _ (fun _ _ _ _ hp _ => hp)) _ _ (fun _ _ _ _ hp _ => hp)

/-- R6 selects by "holds no value", which shrinks as the supplied values grow; but it only joins a value
vertex to one that carries a subtype, and there is none -/
theorem phaseR6_mono (nt : Bool) {c c' : CG} (h : Sub c.g c'.g)
    (hvk : ∀ v ∈ c.g.verts, v.isValue = true → v.sub = "") :
    Sub (phaseR6 nt c).g (phaseR6 nt c').g := by
  rw [phaseR6_eq, phaseR6_eq]
  refine nested_mono h _ _ (fun v _ v2 hv2 _ hq => ?_)
  simp only [r6q, Bool.and_eq_true, bne_iff_ne, ne_eq] at hq
  exact absurd (hvk v2 hv2 hq.1.1.1) hq.1.2

/-! ### the unpruned graph -/

theorem inputOps_mono {b b' : Builder} (hin : ∀ u ∈ Prune.inputsList b, u ∈ Prune.inputsList b') :
    ∀ o ∈ inputOps b, o ∈ inputOps b' := by
  intro o ho
  unfold inputOps at ho ⊢
  simp only [List.mem_flatMap] at ho ⊢
  obtain ⟨vx, hvx, ho⟩ := ho
  have hm : vx.1 ∈ Prune.inputsList b := by
    rw [Prune.inputsList_eq]
    exact List.mem_map.2 ⟨vx, hvx, rfl⟩
  have hm' := hin _ hm
  rw [Prune.inputsList_eq] at hm'
  obtain ⟨vx', hvx', heq⟩ := List.mem_map.1 hm'
  refine ⟨vx', hvx', ?_⟩
  rw [heq]
  exact ho

theorem c3_mono {b b' : Builder} (funcs : Nat → Option FuncDesc) (target : FuncDesc)
    (hconv : b'.convs = b.convs) (hin : ∀ u ∈ Prune.inputsList b, u ∈ Prune.inputsList b') :
    Sub (ExactWins.c3 b funcs target).g (ExactWins.c3 b' funcs target).g := by
  rw [c3_eq, c3_eq, convs_run, convs_run, c2_eq, c2_eq, supply_run, supply_run, hconv]
  exact run_mono (run_mono (Sub.refl _) (inputOps_mono hin)) (fun _ h => h)

theorem pre_mono (e : TypeEnv) {b b' : Builder} (funcs : Nat → Option FuncDesc) (target : FuncDesc)
    (hconv : b'.convs = b.convs) (hin : ∀ u ∈ Prune.inputsList b, u ∈ Prune.inputsList b')
    (hvk : ∀ v ∈ (ExactWins.pre e b funcs target).g.verts, v.isValue = true → v.sub = "") :
    Sub (ExactWins.pre e b funcs target).g (ExactWins.pre e b' funcs target).g := by
  unfold ExactWins.pre at hvk ⊢
  refine phaseR7_mono (phaseR6_mono true (phaseR5_mono e true (phaseR4_mono (phaseR3_mono
    (c3_mono funcs target hconv hin)))) (fun v hv => hvk v ?_))
  rw [phaseR7_eq, phaseR6_eq, nested_verts, nested_verts, nested_verts]
  exact hv

end ArgMapper.RedefC
