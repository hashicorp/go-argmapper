import ArgMapper.Proofs.WalkLadder
import ArgMapper.Proofs.GraphBasics
/-!
# Completeness of conversion chaining on single-input converter sets (helper lemmas for C05)

Dynamic part.  For a context `c` whose graph satisfies `Facts` (the subtype-free shape of a `Call`
graph: no R6 edge, edges into the root come from functions or supplied vertices, a converter vertex
requires the root or the vertex of its only input, the target vertex has no in-edge, output lookups
succeed with the vertex's type) the walk invariants of `Proofs/WalkLadder.lean` hold along every valid path.

With at most one input per converter (`SFacts`) the requirement of a converter met on a path is the vertex
processed just before it (or the root), and (P) says that vertex holds a value: the nested `reach` finds
nothing missing and returns at once (`reach_all_present'`), `callDirect` finds its argument, and the only
errors are `badOracle` and the error a function body reported.
-/
set_option linter.unusedSectionVars false

namespace ArgMapper.CompleteLegal

/-- converters with at most one input, in a graph whose target vertex has no in-edge -/
structure SFacts (c : Ctx) (tk : Nat) : Prop where
  tvn : c.takeValuedNamed = true
  tr : c.trackReaching = true
  funcReq : ∀ k y, c.g.hasEdge (.func k) y = true →
    ∃ f, c.funcOf k = some f ∧ (y = .root ∨ ∃ v ∈ f.input.values, y = v.lab.vertex)
  funcRoot : ∀ k f, k ≠ tk → c.funcOf k = some f → c.g.hasEdge (.func k) .root = true →
    f.input.values = []
  single : ∀ k f, k ≠ tk → c.funcOf k = some f → f.input.values.length ≤ 1
  noTarget : ∀ x, c.g.hasEdge x (.func tk) = false
  /-- R6 hops copy the value (repair of F22), or there is no R6 edge -/
  noHop : c.hopCopies = true ∨ ∀ n t s n' t' s', c.g.hasEdge (.value n t s) (.value n' t' s') = false

end ArgMapper.CompleteLegal

namespace ArgMapper.Complete
open ArgMapper WalkEqs ReachSound ReachEqs CompleteLegal

structure Facts (c : Ctx) (N : Prop) (tk : Nat) (Sup : Vtx → Prop) : Prop where
  /-- `N`: "no function body reports an error" (taken to be `False` when nothing is assumed) -/
  hN : N → NE c
  pub : c.publishAfterUpdate = true
  tvn : c.takeValuedNamed = true
  mc : c.memoCopy = true
  tr : c.trackReaching = true
  sri : c.skipRecordsInput = false
  auto : c.auto = false
  trans : ImplTrans c.env
  edgeOK : EdgeOK c.env c.g
  valSub : ∀ x n t s, c.g.hasEdge x (.value n t s) = true → s = ""
  toRoot : ∀ x, c.g.hasEdge x .root = true → x.isFunc = true ∨ Sup x
  supKind : ∀ x, Sup x → x.isValue = true ∨ x.isOut = true
  funcReq : ∀ k y, c.g.hasEdge (.func k) y = true →
    ∃ f, c.funcOf k = some f ∧ (y = .root ∨ ∃ v ∈ f.input.values, y = v.lab.vertex)
  funcKey : ∀ k f, c.funcOf k = some f → f.key = k
  funcRoot : ∀ k f, k ≠ tk → c.funcOf k = some f → c.g.hasEdge (.func k) .root = true →
    f.input.values = []
  single : ∀ k f, k ≠ tk → c.funcOf k = some f → f.input.values.length ≤ 1
  noTarget : ∀ x, c.g.hasEdge x (.func tk) = false
  outTyped : ∀ k f, c.funcOf k = some f → OutTyped f (c.g.ins (.func k))

variable {c : Ctx} {N : Prop} {tk : Nat} {Sup : Vtx → Prop} {F : List OrcItem → List Vtx → Prop}
  {E : RErr → Prop}

theorem no_hop_edge (hedge : EdgeOK c.env c.g) (hsub : ∀ x n t s, c.g.hasEdge x (.value n t s) = true → s = "") :
    ∀ n t s n' t' s', c.g.hasEdge (.value n t s) (.value n' t' s') = false := by
  intro n t s n' t' s'
  cases h : c.g.hasEdge (.value n t s) (.value n' t' s') with
  | false => rfl
  | true => exact absurd (hsub _ _ _ _ h) (rule_value_value (hedge _ _ h)).2.2.2

theorem Facts.toWalk (gf : Facts c N tk Sup) : WalkFacts c N :=
  { hN := gf.hN, pub := gf.pub, mc := gf.mc, trans := gf.trans, edgeOK := gf.edgeOK,
    noHop := .inr (no_hop_edge gf.edgeOK gf.valSub), funcKey := gf.funcKey, outTyped := gf.outTyped }

theorem Facts.toSFacts (gf : Facts c N tk Sup) : SFacts c tk :=
  { tvn := gf.tvn, tr := gf.tr, funcReq := gf.funcReq, funcRoot := gf.funcRoot, single := gf.single,
    noTarget := gf.noTarget, noHop := .inr (no_hop_edge gf.edgeOK gf.valSub) }

/-! ### a converter with at most one input is ready when the walk reaches it -/

theorem single_req (sf : SFacts c tk) {k : Nat} {f : FuncDesc} {u : Vtx} (hk : k ≠ tk) (hfo : c.funcOf k = some f)
    (he : c.g.hasEdge (.func k) u = true) : ∀ v ∈ f.input.values, v.lab.vertex = u := by
  intro v hv
  obtain ⟨f', hfo', hreq⟩ := sf.funcReq k u he
  rw [hfo] at hfo'
  cases hfo'
  rcases hreq with rfl | ⟨v0, hv0, rfl⟩
  · rw [sf.funcRoot k f hk hfo he] at hv
    cases hv
  · rw [eq_of_length_le_one (sf.single k f hk hfo) hv hv0]

theorem conv_ready (sf : SFacts c tk) {s : CallSt} {final : Option PVal} {k : Nat}
    (hk : k ≠ tk) {u : Vtx} (hP : PrevP c s final u) (he : c.g.hasEdge (.func k) u = true) :
    ∀ y ∈ c.g.outs (.func k), (y == Vtx.root || takenAsIs c s y) = true := by
  intro y hy
  obtain ⟨f, hfo, hreq⟩ := sf.funcReq k y (AGraph.mem_outs.1 hy)
  rcases hreq with rfl | ⟨v', hv', rfl⟩
  · rfl
  · have hu := single_req sf hk hfo he v' hv'
    have hkind : u.isValue = true ∨ u.isArg = true := by rw [← hu]; exact vertex_kind _
    rw [hu]
    -- (P): the vertex just processed holds a value
    have hsome : (s.get u).isSome = true := by
      cases u with
      | value n t x => exact hP.1
      | arg t x => exact hP.1
      | root => rcases hkind with h | h <;> cases h
      | out _ _ => rcases hkind with h | h <;> cases h
      | func _ => rcases hkind with h | h <;> cases h
    rw [takenAsIs_of_isSome sf.tvn _ _ hkind hsome]
    simp

def RecSpecE (c : Ctx) (E : RErr → Prop) (rec : Vtx → CallSt → Except RErr ArgMap × CallSt) : Prop :=
  ∀ k s, (∀ v ∈ c.g.outs (.func k), (v == Vtx.root || takenAsIs c s v) = true) →
    (∃ e, (rec (.func k) s).1 = .error e ∧ E e) ∨
    ∃ rest, rec (.func k) s =
      (.ok ((c.g.outs (.func k)).filterMap (fun v => if v == Vtx.root then none else (s.get v).map (fun x => (v, x)))),
       { s with orc := rest })

/-- `hF`: `F` does not speak of the oracle, which the nested search consumes -/
theorem RecSpecE.recOK (sf : SFacts c tk) (hF : ∀ o o' i, F o i → F o' i)
    {rec : Vtx → CallSt → Except RErr ArgMap × CallSt} (h : RecSpecE c E rec) :
    RecOK c N True Sup (fun v => v ≠ .func tk) F E rec := by
  intro k s fin u hQ hs hP he
  have hk : k ≠ tk := fun h => hQ (by rw [h])
  obtain ⟨f, hfo, _⟩ := sf.funcReq k u he
  refine ⟨fun hn => (by rw [hfo] at hn; cases hn), fun _ f' hf' v hv => ?_, ?_⟩
  · rw [single_req sf hk hf' he v hv]
    exact AGraph.mem_outs.2 he
  · have hall := conv_ready sf hk hP he
    rcases h k s hall with ⟨e, he', hE⟩ | ⟨rest, hok⟩
    · exact ⟨fun e' h' => by rw [he'] at h'; cases h'; exact hE, fun am h' => by rw [he'] at h'; cases h'⟩
    · rw [hok, ← am0_eq_outs hall]
      exact .nothingMissing (missing_eq_nil hall) hs.sinv.typed ⟨hs.sinv.congr rfl rfl, hF _ _ _ hs.rest⟩

theorem reach_all_present' (c : Ctx) (hsr : c.skipRecordsInput = false) (rd : Bool)
    (n : Nat) (reaching : List Vtx) (t : Vtx) (s : CallSt)
    (hall : ∀ v ∈ c.g.outs t, (v == Vtx.root || takenAsIs c s v) = true) :
    (∃ w, (reach c rd (n + 1) reaching t s).1 = .error (.badOracle w)) ∨
    ∃ rest,
      reach c rd (n + 1) reaching t s =
        (.ok ((c.g.outs t).filterMap (fun v => if v == Vtx.root then none else (s.get v).map (fun x => (v, x)))),
         { s with orc := rest }) := by
  have hm := missing_eq_nil hall
  have hstep := reach_succ c rd n reaching t s
  generalize reach c rd (n + 1) reaching t s = r at hstep ⊢
  cases hstep with
  | badOracle w orc => exact .inl ⟨w, rfl⟩
  | nothingMissing item rest hi _ => exact .inr ⟨rest, by rw [afterSkip_eq hsr, am0_eq_outs hall]⟩
  | unsat item rest hi ok hu => have := ok.nonempty; rw [hm] at this; cases this
  | walk item rest hi ok hu => have := ok.nonempty; rw [hm] at this; cases this

theorem RecSpecE.reach (hsr : c.skipRecordsInput = false) (hEb : ∀ w, E (.badOracle w))
    (rd : Bool) (n : Nat) (reaching : List Vtx) :
    RecSpecE c E (fun v st => reach c rd (n + 1) reaching v st) := by
  intro k s hall
  rcases reach_all_present' c hsr rd n reaching (.func k) s hall with ⟨w, hw⟩ | h
  · exact .inl ⟨_, hw, hEb w⟩
  · exact .inr h

/-! ### the top-level `reach` and `callWith` -/

/-- the top-level search on a single-input converter set: the chosen paths avoid the target's vertex, the only
one on the resolution stack, and every converter met on them is ready -/
theorem reach_top (wf : WalkFacts c N) (sf : SFacts c tk)
    (htoRoot : ∀ x, c.g.hasEdge x .root = true → x.isFunc = true ∨ Sup x) (m : Nat)
    (hrec : RecSpecE c (Allowed N) (fun v st => reach c false m [.func tk] v st)) (s : CallSt)
    (hs : SInv c N Sup s) :
    ROut c (CInv c N Sup) (Allowed N) tk (reach c false (m + 1) [] (.func tk) s) :=
  reach_step wf (Allowed.errOK N) htoRoot ⟨hs, trivial⟩ (hrec.recOK sf (fun _ _ _ h => h))
    (fun item st ok hu => by rw [plan_unsat_top sf.tr wf.edgeOK sf.noTarget ok] at hu; cases hu)
    (fun item ok cp hcp =>
      validPath_avoids (ok.valid cp hcp) (missing_kind wf.edgeOK (ok.fst_missing hcp)) sf.noTarget)

theorem callWith_single (wf : WalkFacts c N) (sf : SFacts c tk) (hsri : c.skipRecordsInput = false)
    (htoRoot : ∀ x, c.g.hasEdge x .root = true → x.isFunc = true ∨ Sup x)
    (cgr : CallGraphResult) (target : FuncDesc)
    (htk : target.key = tk) (htv : cgr.target = .func target.key) (hunsat : cgr.unsat = [])
    (hpar : ∀ v ∈ target.input.values, v.lab.vertex ∈ c.g.outs (.func tk))
    (m : Nat) (s0 : CallSt) (hs : SInv c N Sup s0) :
    (∃ res, (callWith c cgr target (m + 1 + 1) s0).1 = .ok res) ∨
    ((∃ ε, (callWith c cgr target (m + 1 + 1) s0).1 = .convErr ε) ∧ ¬ N) ∨
    ((∃ ε res, (callWith c cgr target (m + 1 + 1) s0).1 = .targetErr ε res) ∧ ¬ N) ∨
    (∃ w, (callWith c cgr target (m + 1 + 1) s0).1 = .badOracle w) := by
  subst htk
  exact callWith_allowed wf.hN htv hunsat
    (reach_top wf sf htoRoot (m + 1) (.reach hsri (Allowed.errOK N).badOracle false m _) s0 hs)
    hpar

theorem callWith_complete (gf : Facts c N tk Sup) (cgr : CallGraphResult) (target : FuncDesc)
    (htk : target.key = tk) (htv : cgr.target = .func target.key) (hunsat : cgr.unsat = [])
    (hpar : ∀ v ∈ target.input.values, v.lab.vertex ∈ c.g.outs (.func tk))
    (m : Nat) (s0 : CallSt) (hs : SInv c N Sup s0) :
    (∃ res, (callWith c cgr target (m + 1 + 1) s0).1 = .ok res) ∨
    ((∃ ε, (callWith c cgr target (m + 1 + 1) s0).1 = .convErr ε) ∧ ¬ N) ∨
    ((∃ ε res, (callWith c cgr target (m + 1 + 1) s0).1 = .targetErr ε res) ∧ ¬ N) ∨
    (∃ w, (callWith c cgr target (m + 1 + 1) s0).1 = .badOracle w) :=
  callWith_single gf.toWalk gf.toSFacts gf.sri gf.toRoot cgr target htk htv hunsat hpar m s0 hs

end ArgMapper.Complete
