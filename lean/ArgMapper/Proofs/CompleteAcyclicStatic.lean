import ArgMapper.Proofs.CompleteAcyclic
import ArgMapper.Proofs.WalkPanicStatic
/-!
# The `Call` graph of an acyclic scenario in which every surviving converter keeps its parameter vertices
satisfies `CompleteAcyclic.FactsA` (helper lemmas for C05b, static part)

The facts are the lemmas `Complete.CtxStd.*` (no single-input hypothesis, no condition on the target's
key) and `WalkPanic.reqs_of_kept`: a surviving converter vertex whose parameter vertices all survived still
has all of them as requirements.
-/
namespace ArgMapper.CompleteAcyclic
open ArgMapper Generated Complete

/-! ### the facts about the standard context -/

section
variable {e : TypeEnv} {b : Builder} {funcs : Nat → Option FuncDesc} {target : FuncDesc}

theorem facts_std (S : StdHyps b funcs target) (ht : ImplTrans e) (beh : Nat → Nat → List PVal → BehOut)
    (N : Prop) (hN : N → ∀ f n a, (beh f n a).err = none)
    (hsat : (callGraph {} e b funcs target false none).unsat = [])
    (rank : Vtx → Nat)
    (hacyc : ∀ x y, (callGraph {} e b funcs target false none).cg.g.hasEdge x y = true → rank y < rank x)
    (hall : ∀ f ∈ b.convs.filterMap funcs, Vtx.func f.key ∈ (callGraph {} e b funcs target false none).cg.g.verts →
      ∀ v ∈ f.input.values, v.lab.vertex ∈ (callGraph {} e b funcs target false none).cg.g.verts) :
    FactsA (C01.stdCtx e b funcs target beh) N (fun x => x ∈ Prune.inputsList b) rank := by
  have C := ctxStd_call (e := e) (b := b) (funcs := funcs) (target := target) beh
  -- `noHop`: `C01.stdCtx` is the repaired context
  exact
    { hN := hN, pub := rfl, mc := rfl, tr := rfl, trans := ht,
      edgeOK := C.edgeOK, noHop := .inl rfl, toRoot := C.toRoot,
      funcReq := C.funcReq S, funcKey := C.funcKey, funcIn := WalkPanic.reqs_of_kept beh hsat hall,
      outTyped := C.outTyped S,
      wf := by rw [ExactWins.stdCtx_g]; exact ExactWins.fin_wf e b funcs target,
      acyc := by rw [C.g]; exact hacyc }

theorem measure_nil_le (g : AGraph Vtx) :
    Termination.measure g [] ≤ (g.verts.filter Vtx.isFunc).length := by
  unfold Termination.measure
  exact List.length_filter_le _ _

/-- the core of C05b; `¬ N`: some function body may report an error -/
theorem complete_core (S : StdHyps b funcs target) (ht : ImplTrans e)
    (hsat : (callGraph {} e b funcs target false none).unsat = [])
    (rank : Vtx → Nat)
    (hacyc : ∀ x y, (callGraph {} e b funcs target false none).cg.g.hasEdge x y = true → rank y < rank x)
    (hall : ∀ f ∈ b.convs.filterMap funcs, Vtx.func f.key ∈ (callGraph {} e b funcs target false none).cg.g.verts →
      ∀ v ∈ f.input.values, v.lab.vertex ∈ (callGraph {} e b funcs target false none).cg.g.verts)
    (beh : Nat → Nat → List PVal → BehOut) (N : Prop) (hN : N → ∀ f n a, (beh f n a).err = none)
    (fuel : Nat)
    (hfuel : ((callGraph {} e b funcs target false none).cg.g.verts.filter Vtx.isFunc).length + 1 ≤ fuel)
    (memo : List (Nat × Memo))
    (hmemo : N → ∀ p ∈ memo, p.2.res.err = none) (orc : List OrcItem) :
    let r := callWith (C01.stdCtx e b funcs target beh) (callGraph {} e b funcs target false none) target fuel
              (initSt (callGraph {} e b funcs target false none).cg memo orc)
    (∃ res, r.1 = .ok res) ∨ ((∃ ε, r.1 = .convErr ε) ∧ ¬ N) ∨ ((∃ ε res, r.1 = .targetErr ε res) ∧ ¬ N) ∨
      (∃ w, r.1 = .badOracle w) := by
  obtain ⟨m, rfl⟩ : ∃ m, fuel = m + 1 := ⟨fuel - 1, by omega⟩
  refine callWith_complete (facts_std S ht beh N hN hsat rank hacyc hall)
    (callGraph {} e b funcs target false none) target
    (ExactWins.callGraph_target e b funcs target) hsat (params_kept hsat beh) m ?_ _
    ((ctxStd_call beh).initSt_sinv S.typed N memo hmemo orc)
  rw [(ctxStd_call beh).g]
  exact Nat.le_trans (measure_nil_le _) (by omega)

end

end ArgMapper.CompleteAcyclic
