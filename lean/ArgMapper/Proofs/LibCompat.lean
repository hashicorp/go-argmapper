import ArgMapper.Spec.Flow
import ArgMapper.Proofs.FlowCompat
/-!
# Helper lemmas for C13 (continued): `libCompatB` is exactly what the edge rules realise

`FlowCompat.ruleFlow_out` / `ruleFlow_value` / `ruleFlow_arg` characterise what can flow to an out /
value / arg vertex.  The converse lemmas build the explicit chains.  `ruleFlow_value_iff`,
`ruleFlow_arg_iff` are the exact characterisations, from which the comparison with `libCompatB` is a
case split on which of the two labels are named.
-/
namespace ArgMapper.LibCompat
open ArgMapper ArgMapper.FlowCompat

/-! ## the explicit chains -/

/-- every `OutReach` is realised (by zero or one `ifaceOut` step) -/
theorem ruleFlow_of_outReach {e : TypeEnv} {o : Vtx} {i : Nat} {s : String} (h : OutReach e o i s) :
    RuleFlow e o (.out i s) := by
  obtain ⟨t', s', ho, hc⟩ := h
  subst ho
  rcases hc with ⟨h1, h2⟩ | ⟨hi, him, hne⟩
  · subst h1; subst h2; exact .here rfl
  · exact .step rfl (.ifaceOut i s t' s' hi him hne) (.here rfl)

theorem ruleFlow_of_valueReach {e : TypeEnv} {o : Vtx} {n : String} {t : Nat} {s : String}
    (h : ValueReach e o n t s) : RuleFlow e o (.value n t s) := by
  rcases h with h1 | ⟨s', h2, hs, hs'⟩ | ⟨t', s', ho, hc⟩
  · subst h1; exact .here rfl
  · subst h2; subst hs
    exact .step rfl (.valueValue n t s' hs') (.here rfl)
  · exact .step rfl (.valueOut n t s) (ruleFlow_of_outReach ⟨t', s', ho, hc⟩)

theorem ruleFlow_of_argReach {e : TypeEnv} {o : Vtx} {t : Nat} {s : String}
    (h : ArgReach e o t s) : RuleFlow e o (.arg t s) := by
  rcases h with h1 | ⟨n, s0, h2, hs⟩ | ⟨t', s', ho, hc⟩
  · subst h1; exact .here rfl
  · subst h2
    exact .step rfl (.argValue n t s0 s hs) (.here rfl)
  · subst ho
    rcases hc with ⟨h1, hs⟩ | hif
    · subst h1
      by_cases hss : s' = s
      · subst hss; exact .step rfl (.argOut t' s') (.here rfl)
      · have hx : (s = "" ∧ s' ≠ "") ∨ (s ≠ "" ∧ s' = "") := by
          rcases hs with h | h | h
          · exact (hss h).elim
          · subst h; exact .inl ⟨rfl, hss⟩
          · subst h; exact .inr ⟨fun h => hss h.symm, rfl⟩
        exact .step rfl (.argOutSub t' s s' hx) (.here rfl)
    · exact .step rfl (.argOut t s) (ruleFlow_of_outReach ⟨t', s', rfl, .inr hif⟩)

theorem ruleFlow_value_iff {e : TypeEnv} (ht : ImplTrans e) (ha : ImplAntisym e) {o : Vtx} {n : String}
    {t : Nat} {s : String} : RuleFlow e o (.value n t s) ↔ ValueReach e o n t s :=
  ⟨ruleFlow_value ht ha, ruleFlow_of_valueReach⟩

theorem ruleFlow_arg_iff {e : TypeEnv} (ht : ImplTrans e) (ha : ImplAntisym e) {o : Vtx}
    {t : Nat} {s : String} : RuleFlow e o (.arg t s) ↔ ArgReach e o t s :=
  ⟨ruleFlow_arg ht ha, ruleFlow_of_argReach⟩

/-! ## comparison with `libCompatB`, by the four name cases -/

/-- named origin → named parameter -/
theorem lib_value_value (e : TypeEnv) (pn : String) (pt : Nat) (ps : String) (on : String) (ot : Nat)
    (os : String) (hp : pn ≠ "") (ho : on ≠ "") :
    ValueReach e (.value on ot os) pn pt ps ↔
      libCompatB e { name := pn, ty := pt, sub := ps } { name := on, ty := ot, sub := os } = true := by
  simp only [libCompatB, ValueReach, bne_iff_ne, ne_eq, hp, ho, not_false_eq_true, if_true,
    Bool.or_eq_true, Bool.and_eq_true, beq_iff_eq, Label.mk.injEq, Vtx.value.injEq]
  constructor
  · rintro (⟨h1, h2, h3⟩ | ⟨s', ⟨h1, h2, h3⟩, h4, h5⟩ | ⟨t', s', h, _⟩)
    · exact .inl ⟨h1, h2, h3⟩
    · subst h3; exact .inr ⟨⟨⟨h4, h2⟩, h5⟩, h1⟩
    · cases h
  · rintro (⟨h1, h2, h3⟩ | ⟨⟨⟨h4, h2⟩, h5⟩, h1⟩)
    · exact .inl ⟨h1, h2, h3⟩
    · exact .inr (.inl ⟨os, ⟨h1, h2, rfl⟩, h4, h5⟩)

/-- type-only origin → named parameter -/
theorem lib_value_out (e : TypeEnv) (pn : String) (pt : Nat) (ps : String) (ot : Nat)
    (os : String) (hp : pn ≠ "") :
    ValueReach e (.out ot os) pn pt ps ↔
      libCompatB e { name := pn, ty := pt, sub := ps } { name := "", ty := ot, sub := os } = true := by
  simp only [libCompatB, ValueReach, bne_iff_ne, ne_eq, hp, not_false_eq_true, if_true,
    not_true_eq_false, if_false, Bool.or_eq_true, Bool.and_eq_true, beq_iff_eq]
  constructor
  · rintro (h | ⟨s', h, _⟩ | ⟨t', s', h, hc⟩)
    · cases h
    · cases h
    · cases h
      rcases hc with hc | ⟨h1, h2, h3⟩
      · exact .inl hc
      · exact .inr ⟨⟨h1, h2⟩, h3⟩
  · rintro (hc | ⟨⟨h1, h2⟩, h3⟩)
    · exact .inr (.inr ⟨ot, os, rfl, .inl hc⟩)
    · exact .inr (.inr ⟨ot, os, rfl, .inr ⟨h1, h2, h3⟩⟩)

/-- named origin → type-only parameter -/
theorem lib_arg_value (e : TypeEnv) (pt : Nat) (ps : String) (on : String) (ot : Nat)
    (os : String) (ho : on ≠ "") :
    ArgReach e (.value on ot os) pt ps ↔
      libCompatB e { name := "", ty := pt, sub := ps } { name := on, ty := ot, sub := os } = true := by
  simp only [libCompatB, ArgReach, bne_iff_ne, ne_eq, ho, not_false_eq_true, if_true,
    not_true_eq_false, if_false, Bool.or_eq_true, Bool.and_eq_true, beq_iff_eq]
  constructor
  · rintro (h | ⟨n, s0, h, hs⟩ | ⟨t', s', h, _⟩)
    · cases h
    · cases h; exact ⟨rfl, hs⟩
    · cases h
  · rintro ⟨h1, hs⟩
    subst h1
    exact .inr (.inl ⟨on, os, rfl, hs⟩)

/-- type-only origin → type-only parameter -/
theorem lib_arg_out (e : TypeEnv) (pt : Nat) (ps : String) (ot : Nat) (os : String) :
    ArgReach e (.out ot os) pt ps ↔
      libCompatB e { name := "", ty := pt, sub := ps } { name := "", ty := ot, sub := os } = true := by
  simp only [libCompatB, ArgReach, bne_iff_ne, ne_eq, not_true_eq_false, if_false,
    Bool.or_eq_true, Bool.and_eq_true, beq_iff_eq]
  constructor
  · rintro (h | ⟨n, s0, h, _⟩ | ⟨t', s', h, hc⟩)
    · cases h
    · cases h
    · cases h
      rcases hc with ⟨h1, h2 | h2 | h2⟩ | ⟨h1, h2, h3⟩
      · exact .inl ⟨h1, .inl (.inl h2.symm)⟩
      · exact .inl ⟨h1, .inl (.inr h2)⟩
      · exact .inl ⟨h1, .inr h2⟩
      · exact .inr ⟨⟨h1, h2⟩, h3⟩
  · rintro (⟨h1, (h2 | h2) | h2⟩ | ⟨⟨h1, h2⟩, h3⟩)
    · exact .inr (.inr ⟨ot, os, rfl, .inl ⟨h1, .inl h2.symm⟩⟩)
    · exact .inr (.inr ⟨ot, os, rfl, .inl ⟨h1, .inr (.inl h2)⟩⟩)
    · exact .inr (.inr ⟨ot, os, rfl, .inl ⟨h1, .inr (.inr h2)⟩⟩)
    · exact .inr (.inr ⟨ot, os, rfl, .inr ⟨h1, h2, h3⟩⟩)

theorem ite_mem {α : Type} {c : Prop} [Decidable c] {a b : α} {l : List α} (ha : a ∈ l) (hb : b ∈ l) :
    (if c then a else b) ∈ l := by
  split <;> assumption

theorem gapClass_cases (e : TypeEnv) (p o : Label) :
    (gapClass e p o = "none" ∧ (compatB e p o = false ∨ libCompatB e p o = true)) ∨
    gapClass e p o ∈ ["G1_named_value_of_implementing_type_to_named_interface_parameter",
      "G2_named_value_of_implementing_type_to_typed_interface_parameter",
      "G3_named_value_without_subtype_to_typed_parameter_with_subtype",
      "G4_named_value_without_subtype_to_same-named_parameter_with_subtype",
      "G5_typed_value_with_subtype_to_named_parameter_of_that_type"] := by
  unfold gapClass
  by_cases h : (!compatB e p o || libCompatB e p o) = true
  · rw [if_pos h]; exact .inl ⟨rfl, by simpa using h⟩
  · rw [if_neg h]
    exact .inr (ite_mem (ite_mem (.head _) (.tail _ (.head _)))
      (ite_mem (.tail _ (.tail _ (.head _)))
        (ite_mem (.tail _ (.tail _ (.tail _ (.head _)))) (.tail _ (.tail _ (.tail _ (.tail _ (.head _))))))))

end ArgMapper.LibCompat
