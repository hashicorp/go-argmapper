import ArgMapper.Model.Hist
import ArgMapper.Proofs.ExecEqs
import ArgMapper.Proofs.ReachPlan
import ArgMapper.Proofs.Once
/-!
# Nothing is fabricated: provenance ids through `reach` (helper lemmas for C01c)

`Av A log i`: the id `i` is *available* — it is one of the ids `A` the operation started with (supplied
values, outputs held in run-once cells), or an output of an execution of the log.  `Inv c A s`: every id in
the store, in `last`, in the run-once cells and in the arguments of the logged executions is available, and
every run-once cell a function of the context would read holds one id per output value of that function
(so `resultField` never falls back to the zero value).  The walk preserves `Inv` and only ever extends the
log.
-/
namespace ArgMapper.NoFab
open ArgMapper ArgMapper.WalkEqs ArgMapper.ReachEqs ArgMapper.ExecEqs

/-! ### hypotheses on the context -/

/-- the lookup maps of every converter's output set hold members of its value list (part of
`ValueSet.KeysOK`) -/
def OutsListed (c : Ctx) : Prop :=
  ∀ k f, c.funcOf k = some f →
    (∀ p ∈ f.output.named, p.2 ∈ f.output.values) ∧ (∀ p ∈ f.output.typed, p.2 ∈ f.output.values)

/-- the bodies of the converters return (at least) one id per output value (part of `C01.BehFull`) -/
def BehLen (c : Ctx) : Prop :=
  ∀ k f, c.funcOf k = some f → ∀ n args, f.output.values.length ≤ (c.beh f.id n args).outs.length

def MemoFull (c : Ctx) (memo : List (Nat × Memo)) : Prop :=
  ∀ k f, c.funcOf k = some f → f.once = true → ∀ m, mapGet memo f.id = some m →
    f.output.values.length ≤ m.res.outs.length

/-! ### available ids -/

def Av (A : Nat → Prop) (log : List ExecEv) (i : Nat) : Prop := A i ∨ ∃ ev ∈ log, i ∈ ev.res.outs

theorem Av.mono {A : Nat → Prop} {log log' : List ExecEv} (h : ∀ ev ∈ log, ev ∈ log') {i : Nat}
    (hi : Av A log i) : Av A log' i := by
  rcases hi with hi | ⟨ev, hev, hi⟩
  · exact .inl hi
  · exact .inr ⟨ev, h ev hev, hi⟩

def AmOK (A : Nat → Prop) (log : List ExecEv) (am : ArgMap) : Prop := ∀ p ∈ am, Av A log p.2.id

theorem AmOK.mono {A : Nat → Prop} {log log' : List ExecEv} (h : ∀ ev ∈ log, ev ∈ log') {am : ArgMap}
    (ham : AmOK A log am) : AmOK A log' am := fun p hp => (ham p hp).mono h

structure Inv (c : Ctx) (A : Nat → Prop) (s : CallSt) : Prop where
  store : ∀ p ∈ s.store, Av A s.log p.2.id
  last : ∀ x, s.last = some x → Av A s.log x.id
  memo : ∀ p ∈ s.memo, ∀ i ∈ p.2.res.outs, Av A s.log i
  log : ∀ ev ∈ s.log, ∀ a ∈ ev.args, Av A s.log a.id
  full : MemoFull c s.memo

variable {c : Ctx} {A : Nat → Prop}

theorem Inv.get {s : CallSt} (h : Inv c A s) {v : Vtx} {x : PVal} (hg : s.get v = some x) :
    Av A s.log x.id := h.store _ (mem_of_mapGet hg)

@[simp] theorem addInput_memo (s : CallSt) (v : Vtx) : (s.addInput v).memo = s.memo := by
  unfold CallSt.addInput; split <;> rfl
@[simp] theorem addInput_store (s : CallSt) (v : Vtx) : (s.addInput v).store = s.store := by
  unfold CallSt.addInput; split <;> rfl

theorem mem_set_store {s : CallSt} {v : Vtx} {x : Option PVal} {p : Vtx × PVal} (hp : p ∈ (s.set v x).store) :
    p ∈ s.store ∨ x = some p.2 := by
  unfold CallSt.set at hp
  cases x with
  | some y =>
    rcases mem_mapSet hp with hp | rfl
    · exact .inl hp
    · exact .inr rfl
  | none => exact .inl (List.mem_filter.1 hp).1

theorem Inv.set {s : CallSt} (h : Inv c A s) (v : Vtx) (x : Option PVal)
    (hx : ∀ y, x = some y → Av A s.log y.id) : Inv c A (s.set v x) := by
  obtain ⟨st, hst⟩ := set_frame s v x
  constructor
  · intro p hp
    rcases mem_set_store hp with hp | hp <;> rw [hst]
    · exact h.store p hp
    · exact hx _ hp
  all_goals rw [hst]
  · exact h.last
  · exact h.memo
  · exact h.log
  · exact h.full

theorem Inv.setLast {s : CallSt} (h : Inv c A s) (x : Option PVal)
    (hx : ∀ y, x = some y → Av A s.log y.id) : Inv c A { s with last := x } :=
  ⟨h.store, hx, h.memo, h.log, h.full⟩

/-! ### callDirect -/

theorem gatherArgs_ids (e : TypeEnv) (f : FuncDesc) (am : ArgMap) (args : List PVal)
    (h : gatherArgs e f am = .ok args) : ∀ a ∈ args, ∃ p ∈ am, a.id = p.2.id := by
  obtain ⟨rfl, hall⟩ := gatherArgs_eq_ok h
  intro a ha
  obtain ⟨v, hv, rfl⟩ := List.mem_map.1 ha
  obtain ⟨a0, hm, _⟩ := hall v hv
  exact ⟨_, mem_of_mapGet hm, by rw [argOf_of_get hm]⟩

def CdGood (c : Ctx) (A : Nat → Prop) (f : FuncDesc) (s : CallSt) (r : Except RErr (BehOut × Bool) × CallSt) : Prop :=
  (∀ ev ∈ s.log, ev ∈ r.2.log) ∧ Inv c A r.2 ∧
  ∀ res u, r.1 = .ok (res, u) → (∀ i ∈ res.outs, Av A r.2.log i) ∧
    ((∃ k, c.funcOf k = some f) → f.output.values.length ≤ res.outs.length)

theorem callDirect_inv (hb : BehLen c) (f : FuncDesc) (am : ArgMap) (s : CallSt) (h : Inv c A s)
    (ham : AmOK A s.log am) : CdGood c A f s (callDirect c f am s) := by
  have hd := callDirect_cases c f am s
  generalize callDirect c f am s = res at hd ⊢
  cases hd with
  | hit hm =>
    refine ⟨fun _ h => h, h, fun res u hr => ?_⟩
    cases hr
    exact ⟨fun i hi => h.memo _ (mem_of_hit hm) i hi, fun ⟨k, hk⟩ => h.full k f hk (of_hit hm).1 _ (of_hit hm).2⟩
  | argErr _ _ => exact ⟨fun _ h => h, h, nofun⟩
  | @exec _ args hargs =>
    have hsub : ∀ ev ∈ s.log, ev ∈ s.log ++ [execEv c f s args] := fun ev hev => List.mem_append_left _ hev
    have hnew : ∀ i ∈ (execEv c f s args).res.outs, Av A (s.log ++ [execEv c f s args]) i :=
      fun i hi => .inr ⟨_, List.mem_append_right _ (List.mem_singleton.2 rfl), hi⟩
    refine ⟨hsub, ?_, fun res u hr => ?_⟩
    · constructor
      · exact fun p hp => (h.store p hp).mono hsub
      · exact fun x hx => (h.last x hx).mono hsub
      · intro p hp
        rcases mem_execMemo hp with hp | ⟨_, rfl⟩
        · exact fun i hi => (h.memo p hp i hi).mono hsub
        · exact hnew
      · intro ev hev a ha
        rcases List.mem_append.1 hev with hev | hev
        · exact (h.log ev hev a ha).mono hsub
        · rw [List.mem_singleton.1 hev] at ha
          obtain ⟨p, hp, hid⟩ := gatherArgs_ids c.env f am args hargs a ha
          rw [hid]
          exact (ham p hp).mono hsub
      · intro k g hg honce m hm
        rcases mapGet_execMemo hm with hm | ⟨_, hid, rfl⟩
        · exact h.full k g hg honce m hm
        · show g.output.values.length ≤ (c.beh f.id _ args).outs.length
          rw [← hid]
          exact hb k g hg _ _
    · cases hr
      exact ⟨hnew, fun ⟨k, hk⟩ => hb k f hk _ _⟩

/-! ### outputValues -/

theorem resultField_id (f : FuncDesc) (r : BehOut) (sv : SVal) (ty : Nat) (v : Vtx)
    (hsv : sv ∈ f.output.values) (hlen : f.output.values.length ≤ r.outs.length) :
    (resultField f r sv.index ty v).id ∈ r.outs := by
  unfold resultField
  split
  · rename_i p hp
    have := List.mem_of_find?_eq_some hp
    exact (List.of_mem_zip (a := p.1) (b := p.2) this).2
  · rename_i hnone
    exfalso
    obtain ⟨b, hb⟩ := exists_zip_of_mem _ _ hlen sv hsv
    have := List.find?_eq_none.1 hnone _ hb
    simp at this

theorem oStep_inv (f : FuncDesc) (r : BehOut) (s : CallSt) (v : Vtx) (h : Inv c A s)
    (hl : (∀ p ∈ f.output.named, p.2 ∈ f.output.values) ∧ (∀ p ∈ f.output.typed, p.2 ∈ f.output.values))
    (hlen : f.output.values.length ≤ r.outs.length) (hr : ∀ i ∈ r.outs, Av A s.log i) :
    Inv c A (oStep f r s v) ∧ (oStep f r s v).log = s.log := by
  rcases oStep_cases f r s v with h1 | ⟨sv, hsv, h1⟩ <;> rw [h1]
  · exact ⟨h, rfl⟩
  · refine ⟨h.set _ _ fun y hy => ?_, set_log ..⟩
    cases hy
    have hmem : sv ∈ f.output.values := by
      rcases hsv with ⟨n, hn⟩ | ⟨t, ht⟩
      · exact hl.1 _ (mem_of_mapGet hn)
      · exact hl.2 _ (mem_of_mapGet ht)
    exact hr _ (resultField_id f r sv _ _ hmem hlen)

theorem outputValues_inv (f : FuncDesc) (r : BehOut) (u : Bool) (s s' : CallSt) (h : Inv c A s)
    (hl : (∀ p ∈ f.output.named, p.2 ∈ f.output.values) ∧ (∀ p ∈ f.output.typed, p.2 ∈ f.output.values))
    (hlen : f.output.values.length ≤ r.outs.length) (hr : ∀ i ∈ r.outs, Av A s.log i)
    (ho : outputValues c f r u s = .ok s') : Inv c A s' ∧ s'.log = s.log := by
  rw [outputValues_fold ho]
  apply foldl_inv (P := fun (t : CallSt) => Inv c A t ∧ t.log = s.log)
  · intro t v ht
    obtain ⟨hi, hlog⟩ := oStep_inv f r t v ht.1 hl hlen (by rw [ht.2]; exact hr)
    exact ⟨hi, hlog.trans ht.2⟩
  · rcases unwrapSt_cases c f s with h1 | h1 <;> rw [h1]
    · exact ⟨h, rfl⟩
    · refine ⟨⟨h.store, h.last, fun p hp => ?_, h.log, fun k g hg honce m hm => ?_⟩, rfl⟩
      · obtain ⟨q, hq, rfl⟩ := List.mem_map.1 hp
        have := h.memo q hq
        split <;> exact this
      · have hm' : mapGet (s.memo.map _) g.id = some m := hm
        rw [Once.mapGet_map_unwrap] at hm'
        obtain ⟨q, hq, rfl⟩ := Option.map_eq_some_iff.1 hm'
        have := h.full k g hg honce q hq
        split <;> exact this

/-! ### one step of the walk -/

def Good (c : Ctx) (A : Nat → Prop) (s : CallSt) (r : Except RErr ArgMap × CallSt) : Prop :=
  (∀ ev ∈ s.log, ev ∈ r.2.log) ∧ Inv c A r.2 ∧ ∀ am, r.1 = .ok am → AmOK A r.2.log am

theorem Good.error {s s' : CallSt} (hsub : ∀ ev ∈ s.log, ev ∈ s'.log) (h : Inv c A s') (e : RErr) :
    Good c A s (.error e, s') := ⟨hsub, h, nofun⟩

theorem Good.trans {s s1 : CallSt} {r : Except RErr ArgMap × CallSt} (hsub : ∀ ev ∈ s.log, ev ∈ s1.log)
    (h : Good c A s1 r) : Good c A s r := ⟨fun ev hev => h.1 ev (hsub ev hev), h.2⟩

def RecOK (c : Ctx) (A : Nat → Prop) (rec : Vtx → CallSt → Except RErr ArgMap × CallSt) : Prop :=
  ∀ v s, Inv c A s → Good c A s (rec v s)

structure WInv (c : Ctx) (A : Nat → Prop) (s0 : CallSt) (w : WalkSt) : Prop where
  ext : ∀ ev ∈ s0.log, ev ∈ w.s.log
  inv : Inv c A w.s
  final : ∀ x, w.final = some x → Av A w.s.log x.id

theorem WInv.step {s0 : CallSt} {w : WalkSt} (hw : WInv c A s0 w) {s' : CallSt}
    (hsub : ∀ ev ∈ w.s.log, ev ∈ s'.log) (hi : Inv c A s') (e : Option RErr) (p : Option Vtx) :
    WInv c A s0 { w with s := s', err := e, prev := p } :=
  ⟨fun ev hev => hsub ev (hw.ext ev hev), hi, fun x hx => (hw.final x hx).mono hsub⟩

theorem copyFrom_inv (s : CallSt) (prev : Option Vtx) (v : Vtx) (h : Inv c A s) :
    Inv c A (copyFrom s prev v) := by
  unfold copyFrom
  split
  · exact h.set _ _ (fun y hy => h.get hy)
  · exact h

theorem valCopy_inv (s : CallSt) (prev : Option Vtx) (v : Vtx) (h : Inv c A s) :
    Inv c A (valCopy c s prev v) := by
  rcases valCopy_cases c s prev v with h1 | ⟨n, t, st, x, _, _, hg, h1⟩ <;> rw [h1]
  · exact copyFrom_inv s prev v h
  · apply h.set
    intro y hy
    cases hy
    exact h.get hg

theorem argStore_inv (s : CallSt) (t : Nat) (v : Vtx) (h : Inv c A s) : Inv c A (argStore c s t v) := by
  unfold argStore
  split
  · rename_i x hx
    split
    · apply h.set
      intro y hy
      cases hy
      exact h.last _ hx
    · exact h
  · exact h

theorem walkStep_inv (hb : BehLen c) (hk : OutsListed c)
    (rec : Vtx → CallSt → Except RErr ArgMap × CallSt) (hrec : RecOK c A rec)
    (s0 : CallSt) (w : WalkSt) (v : Vtx) (hw : WInv c A s0 w) : WInv c A s0 (walkStep c rec w v) := by
  cases herr : w.err with
  | some e => rw [walkStep_err c rec herr]; exact hw
  | none =>
    -- a data vertex writes what the store or `last` holds and leaves the log alone: no id becomes available or is
    -- needed that was not; a function vertex extends the log (nested search, execution) before it writes
    cases v with
    | root => rw [walkStep_root c rec herr]; exact ⟨hw.ext, hw.inv, hw.final⟩
    | value n t u =>
      rw [walkStep_value c rec herr]
      have hv := valCopy_inv (c := c) w.s w.prev (.value n t u) hw.inv
      obtain ⟨st, hst⟩ := valCopy_frame c w.s w.prev (.value n t u)
      have hlog : (valCopy c w.s w.prev (.value n t u)).log = w.s.log := by rw [hst]
      refine ⟨?_, ?_, ?_⟩
      · show ∀ ev ∈ s0.log, ev ∈ (valCopy c w.s w.prev (.value n t u)).log
        rw [hlog]; exact hw.ext
      · apply hv.setLast
        intro y hy
        split at hy
        · exact hv.get hy
        · rw [hlog]; exact hw.inv.get hy
      · intro x hx
        show Av A (valCopy c w.s w.prev (.value n t u)).log x.id
        cases hg : (valCopy c w.s w.prev (.value n t u)).get (.value n t u) with
        | some y =>
          rw [hg] at hx
          cases hx
          exact hv.get hg
        | none =>
          rw [hg] at hx
          rw [hlog]
          exact hw.final x hx
    | arg t u =>
      rw [walkStep_arg c rec herr]
      have hv := argStore_inv (c := c) w.s t (.arg t u) hw.inv
      obtain ⟨st, hst⟩ := argStore_frame c w.s t (.arg t u)
      refine ⟨?_, hv, fun x hx => hv.get hx⟩
      show ∀ ev ∈ s0.log, ev ∈ (argStore c w.s t (.arg t u)).log
      rw [hst]; exact hw.ext
    | out t u =>
      rw [walkStep_out c rec herr]
      have hv := copyFrom_inv (c := c) (A := A) w.s w.prev (.out t u) hw.inv
      obtain ⟨st, hst⟩ := copyFrom_frame w.s w.prev (.out t u)
      have hlog : (copyFrom w.s w.prev (.out t u)).log = w.s.log := by rw [hst]
      refine ⟨?_, hv.setLast _ (fun y hy => hv.get hy), fun x hx => ?_⟩
      · show ∀ ev ∈ s0.log, ev ∈ (copyFrom w.s w.prev (.out t u)).log
        rw [hlog]; exact hw.ext
      · show Av A (copyFrom w.s w.prev (.out t u)).log x.id
        rw [hlog]; exact hw.final x hx
    | func k =>
      have hr := hrec (Vtx.func k) w.s hw.inv
      have cd : ∀ {f am s1 res s2}, rec (.func k) w.s = (.ok am, s1) → callDirect c f am s1 = (res, s2) →
          (∀ ev ∈ w.s.log, ev ∈ s2.log) ∧ CdGood c A f s1 (res, s2) := by
        intro f am s1 res s2 hrs hcs
        rw [hrs] at hr
        have := callDirect_inv hb f am s1 hr.2.1 (hr.2.2 am rfl)
        rw [hcs] at this
        exact ⟨fun ev hev => this.1 ev (hr.1 ev hev), this⟩
      have hstep := walkStep_func c rec herr k
      generalize walkStep c rec w (.func k) = w' at hstep ⊢
      cases hstep with
      | unknown hf => exact ⟨hw.ext, hw.inv, hw.final⟩
      | recErr hf hrs => rw [hrs] at hr; exact hw.step hr.1 hr.2.1 _ _
      | cdErr hf hrs hcs => obtain ⟨h1, h2⟩ := cd hrs hcs; exact hw.step h1 h2.2.1 _ _
      | funcErr hf hrs hcs _ => obtain ⟨h1, h2⟩ := cd hrs hcs; exact hw.step h1 h2.2.1 _ _
      | outErr hf hrs hcs _ _ => obtain ⟨h1, h2⟩ := cd hrs hcs; exact hw.step h1 h2.2.1 _ _
      | @ok f hf _ _ hrs r unw s2 hcs _ s3 hov =>
        obtain ⟨h1, -, hc2, hc3⟩ := cd hrs hcs
        obtain ⟨ho1, ho2⟩ := hc3 r unw rfl
        obtain ⟨hi3, hl3⟩ := outputValues_inv f r unw s2 s3 hc2 (hk k f hf) (ho2 ⟨k, hf⟩) ho1 hov
        exact hw.step (by rw [hl3]; exact h1) hi3 _ _

theorem walkPaths_inv (hb : BehLen c) (hk : OutsListed c)
    (rec : Vtx → CallSt → Except RErr ArgMap × CallSt) (hrec : RecOK c A rec)
    (ps : List (List Vtx)) (am : ArgMap) (s : CallSt) (hs : Inv c A s) (ham : AmOK A s.log am) :
    Good c A s (walkPaths c rec ps am s) := by
  induction ps generalizing am s with
  | nil => exact ⟨fun _ h => h, hs, fun am' h => by cases h; exact ham⟩
  | cons p rest ih =>
    have hw : WInv c A s (walkPath c rec s p) :=
      foldl_inv (P := fun w => WInv c A s w) _ (fun w v hw => walkStep_inv hb hk rec hrec s w v hw) p _
        ⟨fun _ h => h, hs, nofun⟩
    have hstep := walkPaths_cons c rec p rest am s
    generalize walkPaths c rec (p :: rest) am s = r at hstep ⊢
    cases hstep with
    | err _ => exact Good.error hw.ext hw.inv _
    | noFinal _ _ => exact Good.error hw.ext hw.inv _
    | @next _ x _ hx _ =>
      refine Good.trans hw.ext (ih _ _ hw.inv fun q hq => ?_)
      rcases mem_mapSet hq with hq | rfl
      · exact (ham q hq).mono hw.ext
      · exact hw.final x hx

/-! ### reach -/

theorem get_of_mem_am0 {s : CallSt} {target : Vtx} {p : Vtx × PVal} (h : p ∈ am0 c s target) :
    s.get p.1 = some p.2 := by
  obtain ⟨v, _, hv⟩ := List.mem_filterMap.1 h
  split at hv
  · cases hv
  · obtain ⟨y, hy, rfl⟩ := Option.map_eq_some_iff.1 hv
    exact hy

theorem reach_inv (hb : BehLen c) (hk : OutsListed c) (n : Nat) (reaching : List Vtx) :
    RecOK c A (reach c false n reaching) := by
  induction n generalizing reaching with
  | zero => exact fun tv s hs => Good.error (fun _ h => h) hs _
  | succ n ih =>
    intro tv s hs
    -- up to the walk only `inputSet` and `orc` change
    have hfr : ∀ ins orc, Inv c A { s with inputSet := ins, orc := orc } :=
      fun _ _ => ⟨hs.store, hs.last, hs.memo, hs.log, hs.full⟩
    obtain ⟨ins, h1⟩ := afterSkip_frame c s tv
    have ham0 : AmOK A s.log (am0 c s tv) := fun p hp => hs.get (get_of_mem_am0 hp)
    have hstep := reach_succ c false n reaching tv s
    generalize reach c false (n + 1) reaching tv s = r at hstep ⊢
    cases hstep with
    | badOracle w orc => rw [h1]; exact Good.error (fun _ h => h) (hfr ins orc) _
    | nothingMissing item rest hi hm =>
      rw [h1]; exact ⟨fun _ h => h, hfr ins rest, fun am h => by cases h; exact ham0⟩
    | unsat item rest hi ok hu =>
      obtain ⟨ins', h2⟩ := planned_frame c reaching tv item s rest
      rw [h2]; exact Good.error (fun _ h => h) (hfr ins' rest) _
    | walk item rest hi ok hu =>
      obtain ⟨ins', h2⟩ := planned_frame c reaching tv item s rest
      rw [h2]; exact walkPaths_inv hb hk _ (ih (tv :: reaching)) _ _ _ (hfr ins' rest) ham0

/-! ### Call -/

theorem callWith_inv (hb : BehLen c) (hk : OutsListed c) (cgr : CallGraphResult) (target : FuncDesc)
    (fuel : Nat) (s0 : CallSt) (h : Inv c A s0) : Inv c A (callWith c cgr target fuel s0).2 := by
  have hre := reach_inv (A := A) hb hk fuel [] cgr.target s0 h
  have cd : ∀ {am s res s2}, reach c false fuel [] cgr.target s0 = (.ok am, s) →
      callDirect c target am s = (res, s2) → Inv c A s2 := by
    intro am s res s2 hr hc
    rw [hr] at hre
    have := callDirect_inv hb target am s hre.2.1 (hre.2.2 am rfl)
    rw [hc] at this
    exact this.2.1
  have hstep := callWith_cases c cgr target fuel s0
  generalize callWith c cgr target fuel s0 = r at hstep ⊢
  cases hstep with
  | graphUnsat _ => exact h
  | reachErr _ hr => rw [hr] at hre; exact hre.2.1
  | directErr _ hr hc => exact cd hr hc
  | executed _ hr hc => exact cd hr hc

theorem start_inv (cg : CG) (h : HistState) (orc : List OrcItem) (hm : MemoFull c h.memo) :
    Inv c (fun i => i ∈ cg.store.map (fun p => p.2.id) ∨ ∃ p ∈ h.memo, i ∈ p.2.res.outs)
      (h.start cg orc) := by
  constructor
  · intro p hp
    simp only [HistState.start, initSt, List.mem_map] at hp
    obtain ⟨q, hq, rfl⟩ := hp
    exact .inl (.inl (List.mem_map.2 ⟨q, hq, rfl⟩))
  · intro x hx; cases hx
  · intro p hp i hi
    exact .inl (.inr ⟨p, hp, hi⟩)
  · intro ev hev; cases hev
  · exact hm

/-- **no fabrication, one call** -/
theorem histCall_no_fab (hb : BehLen c) (hk : OutsListed c) (cgr : CallGraphResult) (target : FuncDesc)
    (fuel : Nat) (h : HistState) (orc : List OrcItem) (hm : MemoFull c h.memo) :
    ∀ ev ∈ (histCall c cgr target fuel h orc).2.log, ∀ a ∈ ev.args,
      a.id ∈ cgr.cg.store.map (fun p => p.2.id) ∨ (∃ p ∈ h.memo, a.id ∈ p.2.res.outs) ∨
      ∃ ev' ∈ (histCall c cgr target fuel h orc).2.log, a.id ∈ ev'.res.outs := by
  intro ev hev a ha
  have := (callWith_inv hb hk cgr target fuel _ (start_inv cgr.cg h orc hm)).log ev hev a ha
  rcases this with (h1 | h1) | h1
  · exact .inl h1
  · exact .inr (.inl h1)
  · exact .inr (.inr h1)

end ArgMapper.NoFab
