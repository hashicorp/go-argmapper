import Batteries.Data.String.Lemmas
/-!
# `String.splitOn` with a one-character separator

`String.splitOn s sep.toString` is the obvious split of the character list of `s` at the character
`sep`.  The loop invariant (`splitOnAux_char`) is the one Batteries proves for `String.splitAux`
(`String.splitAux_of_valid`): the string is `l ++ m ++ r`, `b` is the byte length of `l`, `i` that of
`l ++ m`, the separator index `j` is `0`.
-/
namespace ArgMapper.TagStrings

def splitChars (sep : Char) : List Char → List (List Char)
  | [] => [[]]
  | c :: cs =>
    if c = sep then [] :: splitChars sep cs
    else match splitChars sep cs with
      | [] => [[c]]
      | p :: ps => (c :: p) :: ps

def prependFirst (m : List Char) : List (List Char) → List (List Char)
  | [] => [m]
  | p :: ps => (m ++ p) :: ps

theorem splitChars_ne_nil (sep : Char) (cs : List Char) : splitChars sep cs ≠ [] := by
  cases cs with
  | nil => simp [splitChars]
  | cons c cs =>
    unfold splitChars
    split
    · simp
    · split <;> simp

theorem splitChars_cons_ne (sep c : Char) (cs : List Char) (h : c ≠ sep) :
    splitChars sep (c :: cs) = prependFirst [c] (splitChars sep cs) := by
  rw [splitChars, if_neg h]
  cases splitChars sep cs <;> rfl

theorem splitChars_cons_eq (sep : Char) (cs : List Char) :
    splitChars sep (sep :: cs) = [] :: splitChars sep cs := by
  rw [splitChars, if_pos rfl]

theorem prependFirst_nil (x : List (List Char)) (h : x ≠ []) : prependFirst [] x = x := by
  cases x with
  | nil => exact absurd rfl h
  | cons p ps => rfl

theorem prependFirst_append (m n : List Char) (x : List (List Char)) :
    prependFirst (m ++ n) x = prependFirst m (prependFirst n x) := by
  cases x <;> simp [prependFirst]

open String

theorem toString_ofList (c : Char) : c.toString = String.ofList [c] := by
  simp [Char.toString]

theorem get0 (c : Char) : (0 : Pos.Raw).get c.toString = c := by
  have := get_of_valid [] [c]
  rw [toString_ofList]
  simpa using this

theorem next0 (c : Char) : (0 : Pos.Raw).next c.toString = ⟨c.utf8Size⟩ := by
  have := next_of_valid [] c []
  rw [toString_ofList]
  simpa using this

theorem atEnd_next0 (c : Char) : (⟨c.utf8Size⟩ : Pos.Raw).atEnd c.toString = true := by
  have := (atEnd_of_valid [c] []).2 rfl
  rw [toString_ofList]
  simpa using this

theorem splitOnAux_char (sep : Char) (r : List Char) : ∀ (l m : List Char) (acc : List String),
    splitOnAux (ofList (l ++ m ++ r)) sep.toString ⟨utf8Len l⟩ ⟨utf8Len l + utf8Len m⟩ 0 acc =
      acc.reverse ++ (prependFirst m (splitChars sep r)).map ofList := by
  induction r with
  | nil =>
    intro l m acc
    rw [splitOnAux]
    have h1 := (atEnd_of_valid (l ++ m) []).2 rfl
    have h2 := extract_of_valid l m []
    simp only [utf8Len_append] at h1
    rw [if_pos h1, h2]
    simp [splitChars, prependFirst]
  | cons c r ih =>
    intro l m acc
    rw [splitOnAux]
    have h1 : ¬ (Pos.Raw.atEnd (ofList (l ++ m ++ c :: r)) ⟨utf8Len l + utf8Len m⟩ = true) := by
      have := atEnd_of_valid (l ++ m) (c :: r)
      simp only [utf8Len_append] at this
      rw [this]; simp
    have h2 := extract_of_valid l m (c :: r)
    have h3 := get_of_valid (l ++ m) (c :: r)
    have h4 := next_of_valid (l ++ m) c r
    simp only [utf8Len_append, List.headD_cons] at h3 h4
    rw [if_neg h1, h3, get0, h4, next0]
    by_cases hc : c = sep
    · subst hc
      simp only [beq_self_eq_true, if_true, atEnd_next0]
      have ih' := ih (l ++ m ++ [c]) [] (ofList m :: acc)
      simp only [utf8Len_append, utf8Len_cons, utf8Len_nil, List.append_assoc, List.cons_append, List.nil_append, Nat.add_zero, Nat.zero_add] at ih'
      have hu : (⟨utf8Len l + utf8Len m + c.utf8Size⟩ : Pos.Raw).unoffsetBy ⟨c.utf8Size⟩ = ⟨utf8Len l + utf8Len m⟩ := by
        ext; simp
      rw [hu, h2]
      simp only [List.append_assoc, Nat.add_assoc]
      rw [ih', splitChars_cons_eq, prependFirst_nil _ (splitChars_ne_nil _ _)]
      simp [prependFirst]
    · have hb : (c == sep) = false := by simpa using hc
      simp only [hb]
      have ih' := ih l (m ++ [c]) acc
      simp only [utf8Len_append, utf8Len_cons, utf8Len_nil, List.append_assoc, List.cons_append, List.nil_append, Nat.zero_add] at ih'
      have hu : ((⟨utf8Len l + utf8Len m⟩ : Pos.Raw).unoffsetBy 0) = ⟨utf8Len l + utf8Len m⟩ := by
        ext; simp
      rw [hu, h4]
      simp only [List.append_assoc, Nat.add_assoc]
      rw [if_neg (by simp), ih', splitChars_cons_ne _ _ _ hc, prependFirst_append]

theorem toString_ne_empty (c : Char) : (c.toString == "") = false := by
  rw [toString_ofList]
  simp

theorem splitOn_char (s : String) (sep : Char) :
    s.splitOn sep.toString = (splitChars sep s.toList).map String.ofList := by
  have h := splitOnAux_char sep s.toList [] [] []
  simp only [List.nil_append, utf8Len_nil, Nat.add_zero, String.ofList_toList, List.reverse_nil] at h
  rw [prependFirst_nil _ (splitChars_ne_nil _ _)] at h
  unfold String.splitOn
  rw [toString_ne_empty]
  exact h

end ArgMapper.TagStrings
