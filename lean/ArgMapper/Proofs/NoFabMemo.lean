import ArgMapper.Proofs.MemoLog
/-!
# Where the run-once cells come from, and how many ids they hold (helper lemmas for C01c)

Two predicates on (memo table, log) that are closed in the sense of `MemoLog.Closed`: `Src` (every cell holds
the result of an execution: `memo_from_history`) and `LenOK` (every cell holds as many output ids as the
function object has output values).
-/
namespace ArgMapper.NoFabMemo
open ArgMapper ArgMapper.MemoLog

/-! ### where the cells come from -/

def Src (P : Nat → BehOut → Prop) (memo : List (Nat × Memo)) (log : List ExecEv) : Prop :=
  ∀ p ∈ memo, P p.1 p.2.res ∨ ∃ ev ∈ log, ev.fid = p.1 ∧ ev.res = p.2.res

theorem Src.append {P : Nat → BehOut → Prop} {memo : List (Nat × Memo)} {log : List ExecEv}
    (h : Src P memo log) (app : List ExecEv) : Src P memo (log ++ app) := by
  intro p hp
  rcases h p hp with h | ⟨ev, hev, h⟩
  · exact Or.inl h
  · exact Or.inr ⟨ev, List.mem_append_left _ hev, h⟩

theorem src_closed (c : Ctx) (target : FuncDesc) (P : Nat → BehOut → Prop) : Closed c target (Src P) := by
  constructor
  · intro f _ memo log n args _ h p hp
    split at hp
    · rcases mem_mapSet hp with hp | rfl
      · exact h.append _ p hp
      · exact Or.inr ⟨_, List.mem_append_right _ (List.mem_singleton.2 rfl), rfl, rfl⟩
    · exact h.append _ p hp
  · intro k memo log h p hp
    obtain ⟨q, hq, rfl⟩ := List.mem_map.1 hp
    have := h q hq
    split <;> exact this

theorem runHist_src (fuel : Nat) (ops : List HistOp) :
    Src (fun _ _ => False) (runHist fuel {} ops).1.memo (obsLog (runHist fuel {} ops).2) := by
  refine runHist_closed fuel ops (fun op _ => ?_) {} [] (fun p hp => by cases hp)
  cases op with
  | call c cgr t orc => exact src_closed c t _
  | redefine => trivial

/-! ### how many ids a cell holds -/

def LenOK (objs : Nat → Nat) (memo : List (Nat × Memo)) (_ : List ExecEv) : Prop :=
  ∀ p ∈ memo, p.2.res.outs.length = objs p.1

theorem lenOK_closed (c : Ctx) (target : FuncDesc) (objs : Nat → Nat)
    (hb : ∀ f : FuncDesc, (f = target ∨ ∃ k, c.funcOf k = some f) → ∀ n args,
      (c.beh f.id n args).outs.length = objs f.id) : Closed c target (LenOK objs) := by
  constructor
  · intro f hf memo log n args _ h p hp
    split at hp
    · rcases mem_mapSet hp with hp | rfl
      · exact h p hp
      · exact hb f hf n args
    · exact h p hp
  · intro k memo log h p hp
    obtain ⟨q, hq, rfl⟩ := List.mem_map.1 hp
    have := h q hq
    split <;> exact this

def ExecLen (objs : Nat → Nat) (c : Ctx) (t : FuncDesc) : Prop :=
  ∀ f : FuncDesc, (f = t ∨ ∃ k, c.funcOf k = some f) → ∀ n args, (c.beh f.id n args).outs.length = objs f.id

def OpsLen (objs : Nat → Nat) (ops : List HistOp) : Prop :=
  ∀ op ∈ ops, match op with
    | .call c _ t _ => ExecLen objs c t
    | .redefine .. => True

theorem runHist_lenOK (objs : Nat → Nat) (fuel : Nat) (ops : List HistOp) (hops : OpsLen objs ops) :
    LenOK objs (runHist fuel {} ops).1.memo (obsLog (runHist fuel {} ops).2) := by
  refine runHist_closed fuel ops (fun op hop => ?_) {} [] (fun p hp => by cases hp)
  have := hops op hop
  cases op with
  | call c cgr t orc => exact lenOK_closed c t objs this
  | redefine => trivial

end ArgMapper.NoFabMemo
