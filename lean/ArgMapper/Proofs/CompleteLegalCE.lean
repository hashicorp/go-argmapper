import ArgMapper.Props.C06b
import ArgMapper.Proofs.Concrete
/-!
# Counterexample to `C05.complete_single_legal` before the repair of finding F22 (cyclic single-input converters,
subtypes, tie-breaking)

Two single-input converters that form a cycle through one name, and two supplied values that carry a
subtype:

    target  func(z Z) int
    f       func(struct{ argmapper.Struct; N T }) struct{ argmapper.Struct; N U }
    g       func(struct{ argmapper.Struct; N U }) struct{ argmapper.Struct; N T; Z Z `argmapper:",typeOnly"` }
    fn.Call(NamedSubtype("n", T{…}, "s"), NamedSubtype("n", U{…}, "y"), Converter(f, g))

The call is satisfiable (`g` applied to the supplied `n/U/y` yields `Z`), `callGraph` reports nothing
unsatisfied, and with most tie-breaks the call succeeds.  But:

* the path to `arg Z` is forced: `root, n/U/y, n/U/"", g, out Z, arg Z` — the vertex `n/U/""` is entered by an
  R6 hop and holds no value, so the nested `reachTarget(g)` has to search for it;
* under the name discount for `n`, `n/U/""` costs 0 through the hop from `n/U/y` **and** 0 through
  `n/T/s, n/T/"", f` — a tie.  If the predecessor recorded for `n/U/""` is `f`, the walk reaches `f` with
  `n/T/""` value-less (R6 hop again) and `reachTarget(f)` searches for `n/T/""`;
* symmetric tie: `n/T/""` costs 0 through the hop from `n/T/s` and 0 through `n/U/y, n/U/"", g`.  If the
  predecessor recorded is `g` — a function whose `reachTarget` is in progress — the requirement is reported
  unsatisfied.

Every `reachTarget` runs Dijkstra afresh on a fresh copy of the graph, so the two tie-breaks are independent.
Replayed on the real library: 503 of 3000 identical calls failed with
`Unsatisfiable arguments: name: "n" (type: T)`, the others succeeded.

**Repair of finding F22.**  The defect is exactly that the R6 hop copies nothing.  The counterexample is therefore
stated for the pre-repair context (`hopCopies := false`, `ctxOld`).  In the repaired context (`C01.stdCtx`,
`hopCopies := true`) the hop copies the supplied `n/U/y` into `n/U/""`, the nested `reachTarget(g)` finds its only
requirement filled and searches for nothing: the oracles below are then rejected as inconsistent
(`badOracle "missing"` — they record a search that no longer happens), and with the oracle of the repaired
run (`orcFixed`: the forced top path, nothing missing for `g`; legal) the call succeeds (`after_repair`).

Types: `T = 1`, `U = 2`, `Z = 3`.
-/
namespace ArgMapper.CompleteLegalCE
open ArgMapper

def e0 : TypeEnv := ⟨fun _ => false, fun _ _ => false⟩
def nv (t i : Nat) : SVal := ⟨⟨"n", t, ""⟩, i⟩
def tv (t i : Nat) : SVal := ⟨⟨"", t, ""⟩, i⟩
/-- `struct{ Struct; N <t> }` -/
def setN (t : Nat) : ValueSet := ⟨true, 0, [nv t 1], [("n", nv t 1)], [], false⟩
/-- `struct{ Struct; N T; Z Z typeOnly }` -/
def setNZ : ValueSet := ⟨true, 0, [nv 1 1, tv 3 2], [("n", nv 1 1)], [(3, tv 3 2)], false⟩
/-- the lifted set of `(Z)` -/
def setZ : ValueSet := ⟨true, 0, [tv 3 0], [], [(3, tv 3 0)], true⟩

def tgt : FuncDesc := ⟨0, 0, setZ, ValueSet.nil, false, false⟩
def f : FuncDesc := ⟨1, 1, setN 1, setN 2, false, false⟩
def g : FuncDesc := ⟨2, 2, setN 2, setNZ, false, false⟩
def funcs : Nat → Option FuncDesc := fun i => if i = 1 then some f else if i = 2 then some g else none
def b : Builder :=
  { Builder.empty with namedSub := [(("n", "s"), ⟨1, 10⟩), (("n", "y"), ⟨2, 20⟩)], convs := [1, 2] }
def beh0 : Nat → Nat → List PVal → BehOut := fun _ _ _ => ⟨[7, 8], none⟩

theorem b_is_built :
    build [.namedSub "n" (some ⟨1, 10⟩) "s", .namedSub "n" (some ⟨2, 20⟩) "y", .conv [some 1, some 2]] = .ok b := by
  decide +kernel

abbrev cgr : CallGraphResult := callGraph {} e0 b funcs tgt false none

def nTs : Vtx := .value "n" 1 "s"
def nUy : Vtx := .value "n" 2 "y"
def nT : Vtx := .value "n" 1 ""
def nU : Vtx := .value "n" 2 ""

/-- the graph of the call after pruning; an edge points from a dependent to its requirement -/
def G : AGraph Vtx :=
  ⟨[.root, .func 0, .arg 3 "", nTs, nUy, .func 1, nT, nU, .func 2, .out 3 "", .arg 1 "", .arg 1 "s", .arg 2 "",
    .arg 2 "y"],
   [(.func 0, .arg 3 "", 5), (nTs, .root, 1), (nUy, .root, 1), (.func 1, nT, 1), (nU, .func 1, 1), (.func 2, nU, 1),
    (nT, .func 2, 1), (.out 3 "", .func 2, 5), (.arg 1 "", nTs, 5), (.arg 1 "s", nTs, 5), (.arg 2 "", nUy, 5),
    (.arg 2 "y", nUy, 5), (.arg 1 "", nT, 5), (.arg 2 "", nU, 5), (.arg 3 "", .out 3 "", 5), (nT, nTs, 5),
    (nU, nUy, 5)]⟩

theorem cgr_eq : cgr = ⟨⟨G, [(nTs, ⟨1, 10⟩), (nUy, ⟨2, 20⟩)]⟩, .func 0, [.arg 3 ""], [nTs, nUy], []⟩ :=
  CallGraphResult.eq_mk (by decide +kernel)

/-- the oracle: the forced top path; the search for `n/U/""` resolved through `f`; the search for `n/T/""`
resolved through `g` -/
def orc : List OrcItem :=
  [⟨.func 0, [.arg 3 ""], [[.root, nUy, nU, .func 2, .out 3 "", .arg 3 ""]]⟩,
   ⟨.func 2, [nU], [[.root, nTs, nT, .func 1, nU]]⟩,
   ⟨.func 1, [nT], [[.root, nUy, nU, .func 2, nT]]⟩]

/-- the same call with the tie broken the other way in the second search -/
def orcGood : List OrcItem :=
  [⟨.func 0, [.arg 3 ""], [[.root, nUy, nU, .func 2, .out 3 "", .arg 3 ""]]⟩,
   ⟨.func 2, [nU], [[.root, nUy, nU]]⟩]

/-- the oracle of the repaired run: the forced top path; the nested search of `g` has nothing missing -/
def orcFixed : List OrcItem :=
  [⟨.func 0, [.arg 3 ""], [[.root, nUy, nU, .func 2, .out 3 "", .arg 3 ""]]⟩,
   ⟨.func 2, [], []⟩]

/-- legal complete pop orders that produce these paths -/
def pops1 : List Vtx :=
  [.root, nTs, nUy, nT, nU, .arg 1 "", .arg 1 "s", .arg 2 "", .arg 2 "y", .func 1, .func 2, .out 3 "", .arg 3 "", .func 0]
def pops2 : List Vtx :=
  [.root, nTs, nT, .func 1, .arg 1 "", nU, .func 2, .arg 2 "", .arg 1 "s", nUy, .arg 2 "y", .out 3 "", .arg 3 "", .func 0]
def pops3 : List Vtx :=
  [.root, nUy, nU, .func 2, .arg 2 "", nT, .func 1, .arg 1 "", .arg 2 "y", nTs, .arg 1 "s", .out 3 "", .arg 3 "", .func 0]

/-- the context after the repair of F22, and before it (an R6 hop copies nothing) -/
def ctxNew : Ctx := C01.stdCtx e0 b funcs tgt beh0
def ctxOld : Ctx := { C01.stdCtx e0 b funcs tgt beh0 with hopCopies := false }

def run (c : Ctx) (o : List OrcItem) : Outcome × CallSt :=
  callWith c cgr tgt 5 (initSt cgr.cg [] o)

theorem consistent : C01.FuncsConsistent (C01.allFuncs b funcs tgt) := by
  unfold C01.FuncsConsistent ValueSet.KeysOK; decide +kernel

theorem setsWF : C05.SetsWF (C01.allFuncs b funcs tgt) := by
  unfold C05.SetsWF; decide +kernel

theorem single : C05.SingleInput (b.convs.filterMap funcs) := by
  unfold C05.SingleInput; decide

theorem keys : ∀ f1 ∈ b.convs.filterMap funcs, f1.key ≠ tgt.key := by
  decide

theorem builderOK : C03.BuilderOK b := by
  unfold C03.BuilderOK C03.NamedOK
  decide

/-- each pop order is legal and yields its path.  The second and third are the two ties of the header: on the graph
re-weighted for the name `n`, `pops2` settles `n/U/""` through `f`, `pops3` settles `n/T/""` through `g` (and
`n/U/""` through the hop) -/
theorem choices :
    (legalChoice G (.arg 3 "") pops1 = true ∧
      [.root, nUy, nU, .func 2, .out 3 "", .arg 3 ""] = choosePath G (.arg 3 "") pops1) ∧
    (legalChoice G nU pops2 = true ∧ [.root, nTs, nT, .func 1, nU] = choosePath G nU pops2) ∧
    (legalChoice G nT pops3 = true ∧ [.root, nUy, nU, .func 2, nT] = choosePath G nT pops3) ∧
    (legalChoice G nU pops3 = true ∧ [.root, nUy, nU] = choosePath G nU pops3) := by
  decide +kernel

theorem legal : ∀ it ∈ orc, C03.LegalItem cgr.cg.g it := by
  rw [cgr_eq]
  intro it hit
  simp only [orc, List.mem_cons, List.not_mem_nil, or_false] at hit
  rcases hit with rfl | rfl | rfl
  · exact .cons pops1 choices.1 (.nil _ _ _)
  · exact .cons pops2 choices.2.1 (.nil _ _ _)
  · exact .cons pops3 choices.2.2.1 (.nil _ _ _)

theorem legalGood : ∀ it ∈ orcGood, C03.LegalItem cgr.cg.g it := by
  rw [cgr_eq]
  intro it hit
  simp only [orcGood, List.mem_cons, List.not_mem_nil, or_false] at hit
  rcases hit with rfl | rfl
  · exact .cons pops1 choices.1 (.nil _ _ _)
  · exact .cons pops3 choices.2.2.2 (.nil _ _ _)

theorem legalFixed : ∀ it ∈ orcFixed, C03.LegalItem cgr.cg.g it := by
  rw [cgr_eq]
  intro it hit
  simp only [orcFixed, List.mem_cons, List.not_mem_nil, or_false] at hit
  rcases hit with rfl | rfl
  · exact .cons pops1 choices.1 (.nil _ _ _)
  · exact .nil _ _ _

/-- the runs of `unsat_reached` and `after_repair` -/
theorem runs :
    (run ctxOld orc).1 = .unsat [⟨"n", 1, ""⟩] false ∧ (run ctxOld orcGood).1 = .ok ⟨[7, 8], none⟩ ∧
    (run ctxNew orcFixed).1 = .ok ⟨[7, 8], none⟩ ∧ (run ctxNew orc).1 = .badOracle "missing" ∧
    (run ctxNew orcGood).1 = .badOracle "missing" := by
  simp only [run, ctxOld, ctxNew, C01.stdCtx, cgr_eq]
  decide +kernel

/-- **after the repair of F22** (`hopCopies := true`, the default of `C01.stdCtx`) the same scenario succeeds with
its legal oracle; the two pre-repair oracles record a nested search for `n/U/""` that no longer takes place (the
hop has filled that vertex) and are rejected as inconsistent with the run -/
theorem after_repair :
    (∀ it ∈ orcFixed, C03.LegalItem cgr.cg.g it) ∧ (run ctxNew orcFixed).1 = .ok ⟨[7, 8], none⟩ ∧
    (run ctxNew orc).1 = .badOracle "missing" ∧ (run ctxNew orcGood).1 = .badOracle "missing" :=
  ⟨legalFixed, runs.2.2⟩

/-- **the counterexample** (pre-repair context `ctxOld`, `hopCopies := false`): every hypothesis of `C05.complete_single_legal` holds — single-input converters
of other Go types than the target, nothing reported unsatisfied, enough fuel, every oracle item legal —
and the call ends in an unsatisfied-argument error for the parameter `N T` of the converter `f`; with another
legal oracle the same call succeeds -/
theorem unsat_reached :
    ImplTrans e0 ∧ C03.BuilderOK b ∧ C01.FuncsConsistent (C01.allFuncs b funcs tgt) ∧
    C05.SingleInput (b.convs.filterMap funcs) ∧ C05.SetsWF (C01.allFuncs b funcs tgt) ∧
    (∀ f1 ∈ b.convs.filterMap funcs, f1.key ≠ tgt.key) ∧
    C03.SmallGraph cgr.cg.g ∧ cgr.unsat = [] ∧ (C06.funcVerts cgr.cg.g).length + 1 ≤ 5 ∧
    (∀ it ∈ orc, C03.LegalItem cgr.cg.g it) ∧
    (run ctxOld orc).1 = .unsat [⟨"n", 1, ""⟩] false ∧
    (∀ it ∈ orcGood, C03.LegalItem cgr.cg.g it) ∧ (run ctxOld orcGood).1 = .ok ⟨[7, 8], none⟩ :=
  ⟨by intro a b c h; simp [e0] at h, builderOK, consistent, single, setsWF, keys,
    by rw [cgr_eq]; unfold C03.SmallGraph; decide, by rw [cgr_eq], by rw [cgr_eq]; decide, legal, runs.1,
    legalGood, runs.2.1⟩

end ArgMapper.CompleteLegalCE
