import ArgMapper.Proofs.ExactWins
import ArgMapper.Proofs.DijkstraPath
import ArgMapper.Proofs.ReachPlan
import ArgMapper.Proofs.ExecEqs
import ArgMapper.Proofs.SearchOut
/-!
# C03 (exact matches win): type-only parameters, and the assembly

* static part: in the pruned call graph every root-to-`arg(T,s)` path of the reversed graph that is as
  cheap as the direct one `root → out(T,s) → arg(T,s)` has the shape `[root, x, arg(T,s)]` with `x` the
  vertex of a supplied value of type `T`; by the exactness of Dijkstra (C18) the chosen path is such a
  path (`legal_path_good`);
* dynamic part: walking such paths copies supplied values into the argument vertices and executes
  nothing; named parameters that hold a value are not searched for at all (`call_exact`);
* `exact_core` puts the two together; both theorems of `Props/C03.lean` are read off it.
-/
namespace ArgMapper.ExactWins
open ArgMapper Generated

/-! ### case analysis of the weighted rules -/

theorem rule_pos {fs : List FuncDesc} {ins : List Vtx} {x y : Vtx} {w : Int} (h : WRule fs ins x y w) : 1 ≤ w := by
  cases h <;> decide

theorem rule_to_root {fs : List FuncDesc} {ins : List Vtx} {x : Vtx} {w : Int} (h : WRule fs ins x .root w) :
    w = weightNormal ∧ ((∃ k, x = .func k) ∨ x ∈ ins) := by
  generalize hy : Vtx.root = y at h
  cases h with
  | funcRoot f hf => exact ⟨rfl, Or.inl ⟨_, rfl⟩⟩
  | inputRoot x hx => exact ⟨rfl, Or.inr hx⟩
  | funcNamed => cases hy
  | funcTyped => cases hy
  | namedOut => cases hy
  | typedOut => cases hy
  | valueOut => cases hy
  | argValue => cases hy
  | argOut => cases hy
  | outOut => cases hy
  | valueValue => cases hy
  | argOutSub => cases hy

theorem rule_from_arg {fs : List FuncDesc} {ins : List Vtx} {t : Nat} {s : String} {y : Vtx} {w : Int}
    (hins : ∀ x ∈ ins, x.isValue = true ∨ x.isOut = true) (h : WRule fs ins (.arg t s) y w) :
    (∃ n s', y = .value n t s' ∧ w = weightTyped) ∨ (y = .out t s ∧ w = weightTyped) ∨
      (∃ s', y = .out t s' ∧ s ≠ s' ∧ w = weightTypedOtherSubtype) := by
  generalize hx : Vtx.arg t s = x at h
  cases h with
  | argValue n t' s1 s2 => cases hx; exact Or.inl ⟨_, _, rfl, rfl⟩
  | argOut t' s' => cases hx; exact Or.inr (Or.inl ⟨rfl, rfl⟩)
  | argOutSub t' s1 s2 hne => cases hx; exact Or.inr (Or.inr ⟨_, rfl, hne, rfl⟩)
  | funcRoot => cases hx
  | funcNamed => cases hx
  | funcTyped => cases hx
  | inputRoot x' hx' =>
    subst hx
    rcases hins _ hx' with h | h <;> cases h
  | namedOut => cases hx
  | typedOut => cases hx
  | valueOut => cases hx
  | outOut => cases hx
  | valueValue => cases hx


/-! ### more about pruning -/

section
variable (e : TypeEnv) (b : Builder) (funcs : Nat → Option FuncDesc) (target : FuncDesc)

theorem fin_wf : (fin e b funcs target).g.WF := prune_wf _ (pre_wf e b funcs target) _

theorem fin_rule : RuleOK (CRule b funcs target) (fin e b funcs target).g := by
  intro x y w h
  unfold fin at h
  rw [prune_weight _ (pre_wf e b funcs target)] at h
  exact pre_rule e b funcs target x y w h.1

theorem fin_hasEdge_of_kept {x y : Vtx} (h : (pre e b funcs target).g.hasEdge x y = true)
    (hx : Kept (pre e b funcs target) (.func target.key) x) (hy : Kept (pre e b funcs target) (.func target.key) y) :
    (fin e b funcs target).g.hasEdge x y = true := by
  obtain ⟨w, hw⟩ := AGraph.hasEdge_iff_weight.1 h
  refine AGraph.hasEdge_iff_weight.2 ⟨w, ?_⟩
  unfold fin
  rw [prune_weight _ (pre_wf e b funcs target)]
  exact ⟨hw, hx, hy⟩

theorem fin_mem_of_kept {x : Vtx} (h : x ∈ (pre e b funcs target).g.verts)
    (hx : Kept (pre e b funcs target) (.func target.key) x) : x ∈ (fin e b funcs target).g.verts := by
  unfold fin
  rw [prune_verts]
  exact ⟨h, hx⟩

end

/-! ### every supplied vertex holds a value of its type -/

theorem store_inputVerts (c : CG) (b : Builder) (hb : TypedOK b) (x : Vtx) (hx : x ∈ Prune.inputsList b) :
    ∃ val, mapGet (inputsGraph c b).1.store x = some val ∧ val.ty = x.ty := by
  rw [ArgMapper.inputsGraph_eq]
  refine supply_store (fun v => v.ty = x.ty) x _ c ?_ (.inl ?_)
  · intro p hp hv
    simp only [Prune.inputsPairs, List.mem_append, List.mem_map] at hp
    rcases hp with ((⟨q, _, rfl⟩ | ⟨q, _, rfl⟩) | ⟨q, hq, rfl⟩) | ⟨q, hq, rfl⟩
    · rw [← hv]; rfl
    · rw [← hv]; rfl
    · rw [← hv]; exact hb.typed_ty q hq
    · rw [← hv]; exact hb.typedSub_ty q hq
  · obtain ⟨y, hy⟩ := Prune.mem_inputsList.1 hx
    exact ⟨_, hy, rfl⟩


/-! ### cheap paths to a typed argument in the reversed graph -/

section
variable {fs : List FuncDesc} {ins : List Vtx} (g : AGraph Vtx) (hrule : RuleOK (WRule fs ins) g)
  (hins : ∀ x ∈ ins, x.isValue = true ∨ x.isOut = true)
include hrule

theorem rev_edge {a b : Vtx} (h : g.reverse.hasEdge a b = true) :
    ∃ w, g.weight b a = some w ∧ g.reverse.weight a b = some w ∧ WRule fs ins b a w := by
  obtain ⟨w, hw⟩ := AGraph.hasEdge_iff_weight.1 h
  have hw' := hw
  rw [AGraph.weight_reverse] at hw'
  exact ⟨w, hw', hw, hrule _ _ _ hw'⟩

theorem rev_weight_nonneg (a b : Vtx) : 0 ≤ (g.reverse.weight a b).getD 0 := by
  cases h : g.reverse.weight a b with
  | none => simp
  | some w =>
    rw [AGraph.weight_reverse] at h
    have := rule_pos (hrule _ _ _ h)
    simp only [Option.getD_some]
    omega

include hins

theorem pw_into_arg (t : Nat) (s : String) : ∀ (p : List Vtx) (u : Vtx), p ≠ [] → AGraph.IsPath g.reverse (u :: p) →
    (u :: p).getLast? = some (.arg t s) → weightTyped ≤ AGraph.pathWeight g.reverse (u :: p) := by
  intro p
  induction p with
  | nil => intro u h; exact absurd rfl h
  | cons v r ih =>
    intro u _ hpath hlast
    cases r with
    | nil =>
      simp only [List.getLast?_cons_cons, List.getLast?_singleton, Option.some.injEq] at hlast
      subst hlast
      obtain ⟨w, hw1, hw2, hr⟩ := rev_edge g hrule hpath.1
      simp only [AGraph.pathWeight, hw2, Option.getD_some]
      rcases rule_from_arg hins hr with ⟨_, _, _, rfl⟩ | ⟨_, rfl⟩ | ⟨_, _, _, rfl⟩ <;>
        simp only [weightTyped, weightTypedOtherSubtype] <;> omega
    | cons v' r' =>
      rw [List.getLast?_cons_cons] at hlast
      have := ih v (by simp) hpath.2 hlast
      have h0 := rev_weight_nonneg g hrule u v
      simp only [AGraph.pathWeight] at this ⊢
      omega

theorem short_path_shape (t : Nat) (s : String) (p : List Vtx) (hh : p.head? = some Vtx.root)
    (hl : p.getLast? = some (Vtx.arg t s)) (hp : AGraph.IsPath g.reverse p)
    (hw : AGraph.pathWeight g.reverse p ≤ weightNormal + weightTyped) :
    ∃ x, p = [Vtx.root, x, Vtx.arg t s] ∧ g.hasEdge x .root = true ∧ g.hasEdge (.arg t s) x = true := by
  cases p with
  | nil => cases hh
  | cons a rest =>
    simp only [List.head?_cons, Option.some.injEq] at hh
    subst hh
    cases rest with
    | nil => simp at hl
    | cons v1 rest =>
      cases rest with
      | nil =>
        simp only [List.getLast?_cons_cons, List.getLast?_singleton, Option.some.injEq] at hl
        subst hl
        obtain ⟨w, _, _, hr⟩ := rev_edge g hrule hp.1
        rcases rule_from_arg hins hr with ⟨_, _, h, _⟩ | ⟨h, _⟩ | ⟨_, h, _⟩ <;> cases h
      | cons v2 rest =>
        cases rest with
        | nil =>
          simp only [List.getLast?_cons_cons, List.getLast?_singleton, Option.some.injEq] at hl
          subst hl
          exact ⟨v1, rfl, (AGraph.hasEdge_reverse _ _ _).symm.trans hp.1, (AGraph.hasEdge_reverse _ _ _).symm.trans hp.2.1⟩
        | cons v3 rest =>
          exfalso
          obtain ⟨w1, _, hw1, hr1⟩ := rev_edge g hrule hp.1
          obtain ⟨w2, _, hw2, hr2⟩ := rev_edge g hrule hp.2.1
          have h1 := rule_pos hr1
          have h2 := rule_pos hr2
          rw [List.getLast?_cons_cons, List.getLast?_cons_cons] at hl
          have h3 := pw_into_arg g hrule hins t s (v3 :: rest) v2 (by simp) hp.2.2 hl
          simp only [AGraph.pathWeight, hw1, hw2, Option.getD_some, weightNormal] at hw h3
          omega

theorem chosen_path_shape (hwf : g.WF) (hroot : Vtx.root ∈ g.verts)
    (hsmall : (g.edges.map (fun e => e.2.2)).sum < maxInt32) (t : Nat) (s : String)
    (h1 : g.hasEdge (.out t s) .root = true) (h2 : g.hasEdge (.arg t s) (.out t s) = true)
    (pops : List Vtx) (hl : Dijkstra.LegalPops (discount g (.arg t s)).reverse Vtx.root pops) :
    ∃ x, choosePath g (.arg t s) pops = [Vtx.root, x, Vtx.arg t s] ∧ g.hasEdge x .root = true ∧
      g.hasEdge (.arg t s) x = true := by
  have hd : discount g (.arg t s) = g := rfl
  rw [hd] at hl
  have hno : C18.NoOverflow g.reverse := by
    constructor
    · intro ed hed
      simp only [AGraph.reverse, List.mem_map] at hed
      obtain ⟨e0, he0, rfl⟩ := hed
      have := AGraph.weight_of_mem hwf (u := e0.1) (v := e0.2.1) (w := e0.2.2) he0
      have := rule_pos (hrule _ _ _ this)
      show 0 ≤ e0.2.2
      omega
    · have : g.reverse.edges.map (fun e => e.2.2) = g.edges.map (fun e => e.2.2) := by
        simp [AGraph.reverse, List.map_map, Function.comp_def]
      rw [this]; exact hsmall
  have e1 : g.reverse.hasEdge .root (.out t s) = true := (AGraph.hasEdge_reverse _ _ _).trans h1
  have e2 : g.reverse.hasEdge (.out t s) (.arg t s) = true := (AGraph.hasEdge_reverse _ _ _).trans h2
  have hr : AGraph.Reach g.reverse .root (.arg t s) := .step (.step (.refl _) e1) e2
  obtain ⟨hdist, hpath, hpw⟩ := C18.dist_exact g.reverse (AGraph.WF_reverse _ hwf) .root hroot pops hl hno (.arg t s) hr
  have hdirect : AGraph.pathWeight g.reverse [.root, .out t s, .arg t s] = weightNormal + weightTyped := by
    obtain ⟨w1, _, hw1, hr1⟩ := rev_edge g hrule e1
    obtain ⟨w2, _, hw2, hr2⟩ := rev_edge g hrule e2
    have k1 := (rule_to_root hr1).1
    have k2 : w2 = weightTyped := by
      rcases rule_from_arg hins hr2 with ⟨_, _, h, _⟩ | ⟨_, h⟩ | ⟨_, h, hne, _⟩
      · cases h
      · exact h
      · cases h; exact absurd rfl hne
    simp only [AGraph.pathWeight, hw1, hw2, Option.getD_some]
    omega
  have hle := hdist.2 [.root, .out t s, .arg t s] ⟨rfl, rfl, e1, e2, trivial⟩
  rw [hdirect, ← hpw] at hle
  exact short_path_shape g hrule hins t s _ hpath.1 hpath.2.1 hpath.2.2 hle

end


/-! ### walking `[root, x, arg]` -/

open WalkEqs in
theorem walk_good (c : Ctx) (rec : Vtx → CallSt → Except RErr ArgMap × CallSt) (hpub : c.publishAfterUpdate = true)
    (s : CallSt) (x : Vtx) (t : Nat) (st : String) (xv : PVal)
    (hx : x.isValue = true ∨ x.isOut = true) (hget : s.get x = some xv) (hass : c.env.assignable xv.ty t = true) :
    walkPath c rec s [.root, x, .arg t st] =
      { s := ({ s with last := some xv } : CallSt).set (.arg t st) (some xv), final := some xv,
        prev := some (.arg t st), err := none } := by
  have harg : ∀ w : WalkSt, w.err = none → w.s.last = some xv →
      walkStep c rec w (.arg t st) =
        { w with s := w.s.set (.arg t st) (some xv), prev := some (.arg t st), final := some xv } := by
    intro w he hl
    rw [walkStep_arg c rec he, argStore, hl]
    dsimp only
    rw [if_pos hass, WalkEqs.get_set, if_pos rfl]
  show walkStep c rec (walkStep c rec (walkStep c rec _ .root) x) (.arg t st) = _
  rw [walkStep_root c rec rfl]
  cases x with
  | value nm t' st' =>
    have hcf : valCopy c s (some Vtx.root) (.value nm t' st') = s := rfl
    rw [walkStep_value c rec rfl]
    dsimp only
    rw [hcf, hget, hpub, if_pos rfl, harg _ rfl rfl]
  | out t' st' =>
    have hcf : copyFrom s (some Vtx.root) (.out t' st') = s := rfl
    rw [walkStep_out c rec rfl]
    dsimp only
    rw [hcf, hget, harg _ rfl rfl]
  | root => rcases hx with h | h <;> cases h
  | arg _ _ => rcases hx with h | h <;> cases h
  | func _ => rcases hx with h | h <;> cases h

/-- the walk changes nothing but `last`, the input set and argument vertices -/
structure Rel (s0 s : CallSt) : Prop where
  get : ∀ v, v.isArg = false → s.get v = s0.get v
  log : s.log = s0.log
  memo : s.memo = s0.memo

theorem Rel.refl (s : CallSt) : Rel s s := ⟨fun _ _ => rfl, rfl, rfl⟩

def Holds (s0 : CallSt) (t : Nat) (x : Vtx) (xv : PVal) : Prop :=
  (x.isValue = true ∨ x.isOut = true) ∧ x.ty = t ∧ s0.get x = some xv ∧ xv.ty = t

/-- where the value walked into a typed argument of type `t` comes from -/
def Src (s0 : CallSt) (t : Nat) (xv : PVal) : Prop := ∃ x, Holds s0 t x xv

def GoodPath (s0 : CallSt) (p : List Vtx) : Prop :=
  ∃ x t st xv, p = [.root, x, .arg t st] ∧ Holds s0 t x xv

def AmGood (s0 : CallSt) (am : ArgMap) : Prop :=
  ∀ t st xv, mapGet am (.arg t st) = some xv → Src s0 t xv

open WalkEqs in
theorem walkPaths_good (c : Ctx) (rec : Vtx → CallSt → Except RErr ArgMap × CallSt)
    (hpub : c.publishAfterUpdate = true) (s0 : CallSt) (paths : List (List Vtx)) (am : ArgMap) (s : CallSt)
    (hs : Rel s0 s) (ham : AmGood s0 am) (hgood : ∀ p ∈ paths, GoodPath s0 p) :
    ∃ am' s', walkPaths c rec paths am s = (.ok am', s') ∧ Rel s0 s' ∧ AmGood s0 am' ∧
      (∀ v, v.isArg = false → mapGet am' v = mapGet am v) ∧
      (∀ k, (mapGet am k).isSome = true → (mapGet am' k).isSome = true) ∧
      (∀ p ∈ paths, ∀ l, p.getLast? = some l → (mapGet am' l).isSome = true) := by
  -- no walk fails; each ends at an argument vertex with a value from a source of its type
  have hout := Complete.walkPaths_out (c := c) (I := Rel s0) (E := fun _ => False)
    (M := fun am' => AmGood s0 am' ∧ ∀ v, v.isArg = false → mapGet am' v = mapGet am v)
    (R := fun l xv => ∃ t st, l = .arg t st ∧ Src s0 t xv) ?_ rec paths ?_ am s hs ⟨ham, fun _ _ => rfl⟩
  · generalize walkPaths c rec paths am s = r at hout
    obtain ⟨e | am', s'⟩ := r
    · exact (hout.1 e rfl).elim
    · obtain ⟨⟨h3, h4⟩, h2, h5, h6⟩ := hout.2 am' rfl
      exact ⟨am', s', rfl, h2, h3, h4, h5, h6⟩
  · rintro am' l xv ⟨h1, h2⟩ ⟨t, st, rfl, hsrc⟩
    refine ⟨fun t' st' xv' h => ?_, fun v hv => ?_⟩
    · rw [mapGet_mapSet] at h
      split at h
      · rename_i heq
        cases heq
        cases h
        exact hsrc
      · exact h1 t' st' xv' h
    · rw [mapGet_mapSet, if_neg (by intro h; subst h; cases hv)]
      exact h2 v hv
  · intro p hp s hs
    obtain ⟨x, t, st, xv, rfl, hx, hxt, hget, hty⟩ := hgood p hp
    have hxarg : x.isArg = false := by
      cases x <;> first | rfl | (rcases hx with h | h <;> cases h)
    rw [walk_good c rec hpub s x t st xv hx (by rw [hs.get x hxarg]; exact hget)
      (by rw [hty]; exact TypeEnv.assignable_refl _ _)]
    refine ⟨nofun, fun _ => ⟨⟨fun v hv => ?_, by rw [WalkEqs.set_log]; exact hs.log, hs.memo⟩,
      xv, _, rfl, rfl, t, st, rfl, x, hx, hxt, hget, hty⟩⟩
    rw [WalkEqs.get_set, if_neg (by intro h; subst h; cases hv)]
    exact hs.get v hv

/-! ### `reach` when every missing requirement is a typed argument with a good path -/

theorem GoodPath.not_func {s0 : CallSt} {p : List Vtx} (h : GoodPath s0 p) : ∀ v ∈ p, v.isFunc = false := by
  obtain ⟨x, t, st, xv, rfl, hx, _⟩ := h
  intro v hv
  simp only [List.mem_cons, List.not_mem_nil, or_false] at hv
  rcases hv with rfl | rfl | rfl
  · rfl
  · cases v <;> first | rfl | (rcases hx with h | h <;> cases h)
  · rfl

open ReachEqs in
/-- The good paths meet no function vertex, so planning reports nothing; walking them executes nothing. -/
theorem reach_exact (c : Ctx) (hpub : c.publishAfterUpdate = true) (htr : c.trackReaching = true)
    (n : Nat) (reaching : List Vtx) (t : Vtx) (hfun : ∀ v ∈ t :: reaching, v.isFunc = true)
    (s0 : CallSt) (hnoarg : ∀ t st, s0.get (.arg t st) = none)
    (hgood : ∀ item rest, nextItem c s0 t = some (item, rest) → ∀ cp ∈ item.missing.zip item.paths,
      cp.1 ∈ missing c s0 t → GoodPath s0 cp.2) :
    (∃ w, (reach c false (n + 1) reaching t s0).1 = .error (.badOracle w)) ∨
    ∃ am' s', reach c false (n + 1) reaching t s0 = (.ok am', s') ∧ Rel s0 s' ∧ AmGood s0 am' ∧
      (∀ v, v.isArg = false → mapGet am' v = mapGet (am0 c s0 t) v) ∧
      ∀ cur ∈ missing c s0 t, (mapGet am' cur).isSome = true := by
  have ham0 : AmGood s0 (am0 c s0 t) := fun t' st xv h => by
    have := am0_get h
    rw [hnoarg] at this
    cases this
  obtain ⟨ins, hskip⟩ := afterSkip_frame c s0 t
  have hrel : ∀ rest, Rel s0 { afterSkip c s0 t with orc := rest } := fun rest => by
    rw [hskip]
    exact ⟨fun _ _ => rfl, rfl, rfl⟩
  have hplan : ∀ item rest, Rel s0 (plan c false reaching t item { afterSkip c s0 t with orc := rest }).s :=
    fun item rest => by
      obtain ⟨ins', h⟩ := plan_false_frame c reaching t item { afterSkip c s0 t with orc := rest }
      rw [h]
      exact ⟨(hrel rest).get, (hrel rest).log, (hrel rest).memo⟩
  have hstep := reach_succ c false n reaching t s0
  generalize reach c false (n + 1) reaching t s0 = r at hstep ⊢
  cases hstep with
  | badOracle w orc => exact .inl ⟨w, rfl⟩
  | nothingMissing item rest hi hm =>
    exact .inr ⟨_, _, rfl, hrel rest, ham0, fun _ _ => rfl, by rw [hm]; intro _ h; cases h⟩
  | unsat item rest hi ok hu =>
    rw [plan_unsat_nil htr false reaching t item _ fun cp hcp v hv hmem => by
      have := (hgood item rest hi cp hcp (ok.fst_missing hcp)).not_func v hv
      rw [hfun v hmem] at this
      cases this] at hu
    cases hu
  | walk item rest hi ok hu =>
    obtain ⟨am', s', h1, h2, h3, h4, _, h6⟩ := walkPaths_good c
      (fun v st => reach c false n (t :: reaching) v st) hpub s0 item.paths (am0 c s0 t) _
      (hplan item rest) ham0 (fun p hp => by
        obtain ⟨cur, hcur, hz⟩ := ok.req_of_path hp
        exact hgood item rest hi _ hz hcur)
    refine .inr ⟨am', s', h1, h2, h3, h4, fun cur hcur => ?_⟩
    obtain ⟨p, hp, hz⟩ := ok.path_of_missing hcur
    exact h6 p hp cur (ok.last hz)

/-! ### the dynamic part of `exact_wins` -/

open ReachEqs in
theorem callWith_badOracle {c : Ctx} {cgr : CallGraphResult} {target : FuncDesc} {fuel : Nat} {s0 : CallSt}
    {w : String} (hunsat : cgr.unsat = []) (h : (reach c false fuel [] cgr.target s0).1 = .error (.badOracle w)) :
    (callWith c cgr target fuel s0).1 = .badOracle w := by
  have hstep := callWith_cases c cgr target fuel s0
  generalize callWith c cgr target fuel s0 = r at hstep ⊢
  cases hstep with
  | graphUnsat hu => rw [hunsat] at hu; cases hu
  | reachErr _ hr => rw [hr] at h; cases h; rfl
  | directErr _ hr _ => rw [hr] at h; cases h
  | executed _ hr _ => rw [hr] at h; cases h

open ReachEqs in
theorem callWith_state {c : Ctx} {cgr : CallGraphResult} {target : FuncDesc} {fuel : Nat} {s0 s s2 : CallSt}
    {am : ArgMap} {r : BehOut} {u : Bool} (hunsat : cgr.unsat = [])
    (h : reach c false fuel [] cgr.target s0 = (.ok am, s)) (hcd : callDirect c target am s = (.ok (r, u), s2)) :
    (callWith c cgr target fuel s0).2 = s2 := by
  have hstep := callWith_cases c cgr target fuel s0
  generalize callWith c cgr target fuel s0 = r at hstep ⊢
  cases hstep with
  | graphUnsat hu => rw [hunsat] at hu; cases hu
  | reachErr _ hr => rw [h] at hr; cases hr
  | directErr _ hr hc => rw [h] at hr; cases hr; rw [hcd] at hc; cases hc
  | executed _ hr hc => rw [h] at hr; cases hr; rw [hcd] at hc; cases hc; rfl

theorem callDirect_ok (c : Ctx) (f : FuncDesc) (am : ArgMap) (s : CallSt) (args : List PVal)
    (hm : mapGet s.memo f.id = none) (hga : gatherArgs c.env f am = .ok args) :
    ∃ r u s2, callDirect c f am s = (.ok (r, u), s2) ∧ s2.log = s.log ++ [ExecEqs.execEv c f s args] := by
  have hstep := ExecEqs.callDirect_cases c f am s
  generalize callDirect c f am s = r at hstep ⊢
  cases hstep with
  | hit h =>
    have := (ExecEqs.of_hit h).2
    rw [hm] at this
    cases this
  | argErr _ hg => rw [hga] at hg; cases hg
  | exec _ hg => rw [hga] at hg; cases hg; exact ⟨_, _, _, rfl, rfl⟩

open ReachEqs in
theorem call_exact (c : Ctx) (cgr : CallGraphResult) (target : FuncDesc) (s0 : CallSt) (n : Nat)
    (hauto : c.auto = false) (htv : c.takeValuedNamed = true) (hpub : c.publishAfterUpdate = true)
    (htr : c.trackReaching = true) (hunsat : cgr.unsat = []) (htgt : cgr.target = .func target.key)
    (hm : mapGet s0.memo target.id = none) (hlog : s0.log = [])
    (hnoarg : ∀ t st, s0.get (.arg t st) = none)
    (houts : ∀ y ∈ c.g.outs (.func target.key), y = .root ∨ ∃ v ∈ target.input.values, y = v.lab.vertex)
    (hmem : ∀ v ∈ target.input.values, v.lab.vertex ∈ c.g.outs (.func target.key))
    (hnamed : ∀ v ∈ target.input.values, v.lab.name ≠ "" → ∃ a, s0.get v.lab.vertex = some a ∧ a.ty = v.lab.ty)
    (hgood : ∀ item rest, s0.orc = item :: rest → ∀ cp ∈ item.missing.zip item.paths,
      ∀ v ∈ target.input.values, v.lab.name = "" → cp.1 = v.lab.vertex → GoodPath s0 cp.2) :
    (∃ w, (callWith c cgr target (n + 1) s0).1 = .badOracle w) ∨
    ∃ ev am, (callWith c cgr target (n + 1) s0).2.log = [ev] ∧ ev.fid = target.id ∧
      ev.params = target.input.labels ∧ ev.args = target.input.values.map (ExecEqs.argOf am) ∧
      ∀ v ∈ target.input.values, ∃ a, mapGet am v.lab.vertex = some a ∧ a.ty = v.lab.ty ∧
        (v.lab.name ≠ "" → s0.get v.lab.vertex = some a) ∧ (v.lab.name = "" → Src s0 v.lab.ty a) := by
  -- the named parameters are skipped, the type-only ones are missing
  have hskip : ∀ v ∈ target.input.values, v.lab.name ≠ "" → v.lab.vertex ∈ skipped c s0 (.func target.key) :=
    fun v hv hn => by
      obtain ⟨a, ha, _⟩ := hnamed v hv hn
      rw [vertex_named hn] at ha ⊢
      refine mem_skipped.2 ⟨vertex_named hn ▸ hmem v hv, .inr ?_⟩
      show (c.takeValuedNamed && (s0.get _).isSome) = true
      rw [htv, ha]
      rfl
  have hmiss : ∀ y ∈ missing c s0 (.func target.key), ∃ v ∈ target.input.values, v.lab.name = "" ∧ y = v.lab.vertex :=
    fun y hy => by
      obtain ⟨hy, hr, ht⟩ := mem_missing.1 hy
      rcases houts y hy with rfl | ⟨v, hv, rfl⟩
      · exact absurd rfl hr
      · refine ⟨v, hv, Decidable.by_contra fun hn => ?_, rfl⟩
        rw [(mem_skipped.1 (hskip v hv hn)).2.resolve_left hr] at ht
        cases ht
  have hreach := reach_exact c hpub htr n [] (.func target.key) (fun v hv => by cases List.mem_singleton.1 hv; rfl)
    s0 hnoarg (fun item rest hi cp hcp hm => by
      obtain ⟨v, hv, hn, hy⟩ := hmiss _ hm
      have horc := nextItem_orc hauto hi
      obtain ⟨ins, hs⟩ := afterSkip_frame c s0 (.func target.key)
      rw [hs] at horc
      exact hgood item rest horc cp hcp v hv hn hy)
  rcases hreach with ⟨w, hw⟩ | ⟨am, s', hre, hrel, hamg, hnonarg, hfilled⟩
  · exact .inl ⟨w, callWith_badOracle hunsat (by rw [htgt]; exact hw)⟩
  · have hlook : ∀ v ∈ target.input.values, ∃ a, mapGet am v.lab.vertex = some a ∧ a.ty = v.lab.ty ∧
        (v.lab.name ≠ "" → s0.get v.lab.vertex = some a) ∧ (v.lab.name = "" → Src s0 v.lab.ty a) := by
      intro v hv
      by_cases hn : v.lab.name = ""
      · have hvm : v.lab.vertex ∈ missing c s0 (.func target.key) :=
          mem_missing.2 ⟨hmem v hv, vertex_typed hn ▸ (fun h => by cases h),
            by rw [vertex_typed hn]; show (s0.get _).isSome = false; rw [hnoarg]; rfl⟩
        obtain ⟨a, ha⟩ := Option.isSome_iff_exists.1 (hfilled _ hvm)
        obtain ⟨x, hx⟩ := hamg _ _ _ (vertex_typed hn ▸ ha)
        exact ⟨a, ha, hx.2.2.2, fun h => absurd hn h, fun _ => ⟨x, hx⟩⟩
      · obtain ⟨a, ha, hty⟩ := hnamed v hv hn
        refine ⟨a, ?_, hty, fun _ => ha, fun h => absurd h hn⟩
        rw [hnonarg _ (by rw [vertex_named hn]; rfl), ReachEqs.mapGet_am0,
          if_pos ⟨hskip v hv hn, by rw [vertex_named hn]; exact fun h => by cases h⟩, ha]
    have hga := gatherArgs_ok c.env target am (fun v hv => by
      obtain ⟨a, h1, h2, _⟩ := hlook v hv
      exact ⟨a, h1, by rw [h2]; exact TypeEnv.assignable_refl _ _⟩)
    obtain ⟨res, u, s2, hcd, hlog2⟩ := callDirect_ok c target am s' _ (by rw [hrel.memo]; exact hm) hga
    rw [hrel.log, hlog] at hlog2
    exact .inr ⟨_, am, by rw [callWith_state hunsat (htgt ▸ hre) hcd]; exact hlog2, rfl, rfl, rfl, hlook⟩


/-! ### assembling `exact_wins` -/

section
variable (e : TypeEnv) (b : Builder) (funcs : Nat → Option FuncDesc) (target : FuncDesc)

theorem param_kept (v : SVal) (hv : v ∈ target.input.values)
    (hk : Kept (pre e b funcs target) (.func target.key) v.lab.vertex) :
    (fin e b funcs target).g.hasEdge (.func target.key) v.lab.vertex = true ∧
    v.lab.vertex ∈ (fin e b funcs target).g.verts := by
  have hwf := pre_wf e b funcs target
  have h1 : (pre e b funcs target).g.hasEdge (.func target.key) v.lab.vertex = true :=
    (built_pre_c1 e b funcs target).hasEdge (RedefC.funcGraph_req_edge c0 target false v hv)
  have hne : v.lab.vertex ≠ .func target.key := by
    unfold Label.vertex; split <;> exact fun h => by cases h
  obtain ⟨w, hw⟩ := AGraph.hasEdge_iff_weight.1 h1
  exact ⟨fin_hasEdge_of_kept e b funcs target h1 (kept_step _ hwf (pre_root e b funcs target) _ _ _ hk hne h1) hk,
    fin_mem_of_kept e b funcs target (AGraph.weight_verts hwf hw).2 hk⟩

theorem named_param_facts (hb : NamedOK b) (v : SVal) (hn : v.lab.name ≠ "") (val : Val)
    (hval : exactValue b v.lab = some val) (memo : List (Nat × Memo)) (orc : List OrcItem) :
    Kept (pre e b funcs target) (.func target.key) v.lab.vertex ∧
    (initSt (fin e b funcs target) memo orc).get v.lab.vertex =
      some { ty := v.lab.ty, id := val.id, org := v.lab.vertex } := by
  obtain ⟨h1, h2, h3⟩ := exact_named_store (c1 target) b hb v.lab hn val hval
  refine ⟨kept_of_root_edge _ (pre_wf e b funcs target) (pre_root e b funcs target) _ _
    ((built_pre_c2 e b funcs target).hasEdge (inputsGraph_root_edge _ _ _ h3)), ?_⟩
  rw [initSt_get, fin_store]
  show Option.map _ (mapGet (inputsGraph (c1 target) b).1.store v.lab.vertex) = _
  rw [h1, Option.map_some, h2]

theorem typed_param_facts (v : SVal) (hv : v ∈ target.input.values) (hn : v.lab.name = "") (val : Val)
    (hval : exactValue b v.lab = some val) :
    Kept (pre e b funcs target) (.func target.key) (.arg v.lab.ty v.lab.sub) ∧
    (fin e b funcs target).g.hasEdge (.arg v.lab.ty v.lab.sub) (.out v.lab.ty v.lab.sub) = true ∧
    (fin e b funcs target).g.hasEdge (.out v.lab.ty v.lab.sub) .root = true := by
  have hin : Vtx.out v.lab.ty v.lab.sub ∈ Prune.inputsList b := by
    unfold exactValue at hval
    rw [if_neg (not_not_intro hn)] at hval
    split at hval
    · rename_i hs
      rw [hs]
      exact mem_inputsList_typed (p := (v.lab.ty, val)) (mem_of_mapGet hval)
    · exact mem_inputsList_typedSub (p := ((v.lab.ty, v.lab.sub), val)) (mem_of_mapGet hval)
  have hwf := pre_wf e b funcs target
  have hr := pre_root e b funcs target
  have h1 : (pre e b funcs target).g.hasEdge (.out v.lab.ty v.lab.sub) .root = true :=
    (built_pre_c2 e b funcs target).hasEdge (inputsGraph_root_edge _ _ _ hin)
  have hc1e : (c1 target).g.hasEdge (.func target.key) (.arg v.lab.ty v.lab.sub) = true := by
    rw [← vertex_typed hn]; exact RedefC.funcGraph_req_edge c0 target false v hv
  have h2 : (pre e b funcs target).g.hasEdge (.arg v.lab.ty v.lab.sub) (.out v.lab.ty v.lab.sub) = true :=
    pre_arg_out e b funcs target _ _ ((built_pre_c1 e b funcs target).verts
      (AGraph.hasEdge_verts ((grow_c1 (S := fun _ _ => True) {} e b funcs target false none).wf c0_wf) hc1e).2)
  have k1 : Kept (pre e b funcs target) (.func target.key) (.out v.lab.ty v.lab.sub) :=
    kept_of_root_edge _ hwf hr _ _ h1
  have k2 : Kept (pre e b funcs target) (.func target.key) (.arg v.lab.ty v.lab.sub) :=
    kept_step _ hwf hr _ _ _ k1 (fun h => by cases h) h2
  exact ⟨k2, fin_hasEdge_of_kept e b funcs target h2 k2 k1, fin_hasEdge_of_kept e b funcs target h1 k1 (Or.inl rfl)⟩

theorem fin_store_noarg (t : Nat) (st : String) : mapGet (fin e b funcs target).store (.arg t st) = none := by
  cases h : mapGet (fin e b funcs target).store (.arg t st) with
  | none => rfl
  | some v =>
    have := CGE.callGraph_store_isOrigin e b funcs target false none (.arg t st) v (by rw [callGraph_cg]; exact h)
    cases this

theorem legal_path_good (hb : TypedOK b)
    (hsmall : ((callGraph {} e b funcs target false none).cg.g.edges.map (fun e => e.2.2)).sum < maxInt32)
    (v : SVal) (hv : v ∈ target.input.values) (hn : v.lab.name = "") (hex : (exactValue b v.lab).isSome = true)
    (pops : List Vtx)
    (hl : Dijkstra.LegalPops (discount (callGraph {} e b funcs target false none).cg.g v.lab.vertex).reverse
      Vtx.root pops) (memo : List (Nat × Memo)) (orc : List OrcItem) :
    GoodPath (initSt (callGraph {} e b funcs target false none).cg memo orc)
      (choosePath (callGraph {} e b funcs target false none).cg.g v.lab.vertex pops) := by
  have hcg : (callGraph {} e b funcs target false none).cg = fin e b funcs target := callGraph_cg e b funcs target
  rw [hcg] at hsmall hl ⊢
  rw [vertex_typed hn] at hl ⊢
  obtain ⟨val, hval⟩ := Option.isSome_iff_exists.1 hex
  have hins : ∀ x ∈ Prune.inputsList b, x.isValue = true ∨ x.isOut = true := fun x hx => Prune.inputsList_kind hx
  have hrule := fin_rule e b funcs target
  obtain ⟨_, e2, e1⟩ := typed_param_facts e b funcs target v hv hn val hval
  obtain ⟨x, hpath, hx1, hx2⟩ := chosen_path_shape (fin e b funcs target).g hrule hins
    (fin_wf e b funcs target) (fin_root e b funcs target) hsmall _ _ e1 e2 pops hl
  obtain ⟨w1, hw1⟩ := AGraph.hasEdge_iff_weight.1 hx1
  obtain ⟨w2, hw2⟩ := AGraph.hasEdge_iff_weight.1 hx2
  have hxk : (x.isValue = true ∨ x.isOut = true) ∧ x.ty = v.lab.ty := by
    rcases rule_from_arg hins (hrule _ _ _ hw2) with ⟨_, _, rfl, _⟩ | ⟨rfl, _⟩ | ⟨_, rfl, _⟩
    · exact ⟨Or.inl rfl, rfl⟩
    · exact ⟨Or.inr rfl, rfl⟩
    · exact ⟨Or.inr rfl, rfl⟩
  have hxin : x ∈ Prune.inputsList b := by
    rcases (rule_to_root (hrule _ _ _ hw1)).2 with ⟨k, rfl⟩ | h
    · rcases hxk.1 with h | h <;> cases h
    · exact h
  obtain ⟨xval, hxs, hxt⟩ := store_inputVerts (c1 target) b hb x hxin
  refine ⟨x, _, _, { ty := xval.ty, id := xval.id, org := x }, hpath, hxk.1, hxk.2, ?_, hxt.trans hxk.2⟩
  rw [initSt_get, fin_store]
  show Option.map _ (mapGet (inputsGraph (c1 target) b).1.store x) = _
  rw [hxs]
  rfl

end

/-- **exact matches win.**  Every parameter of the target has its exactly matching value supplied and the
oracle's path to each type-only parameter is good: `Call` executes the target and nothing else; a named
parameter receives its same-named value, a type-only one a supplied value of exactly its type. -/
theorem exact_core (e : TypeEnv) (b : Builder) (funcs : Nat → Option FuncDesc) (target : FuncDesc)
    (hb : NamedOK b)
    (hsame : ∀ f ∈ C01.allFuncs b funcs target, f.key = target.key → f.input = target.input)
    (hex : ∀ p ∈ target.input.labels, (exactValue b p).isSome = true)
    (beh : Nat → Nat → List PVal → BehOut) (n : Nat)
    (memo : List (Nat × Memo)) (orc : List OrcItem) (hm : mapGet memo target.id = none)
    (hgood : ∀ item rest, orc = item :: rest → ∀ cp ∈ item.missing.zip item.paths,
      ∀ v ∈ target.input.values, v.lab.name = "" → cp.1 = v.lab.vertex →
        GoodPath (initSt (callGraph {} e b funcs target false none).cg memo orc) cp.2) :
    let r := callWith (C01.stdCtx e b funcs target beh) (callGraph {} e b funcs target false none) target (n + 1)
              (initSt (callGraph {} e b funcs target false none).cg memo orc)
    (∃ w, r.1 = .badOracle w) ∨
    ∃ ev f, r.2.log = [ev] ∧ ev.fid = target.id ∧ ev.params = target.input.labels ∧
      ev.args = target.input.values.map f ∧
      ∀ v ∈ target.input.values,
        (v.lab.name ≠ "" → some (f v).id = (exactValue b v.lab).map (·.id)) ∧
        (v.lab.name = "" → (f v).org.isOrigin = true ∧ (f v).org.ty = v.lab.ty ∧
          ∃ x, mapGet (callGraph {} e b funcs target false none).cg.store (f v).org = some x ∧ x.id = (f v).id) := by
  intro r
  have hcg : (callGraph {} e b funcs target false none).cg = fin e b funcs target := callGraph_cg e b funcs target
  have hpar : ∀ v ∈ target.input.values, ∃ val, exactValue b v.lab = some val ∧
      Kept (pre e b funcs target) (.func target.key) v.lab.vertex ∧
      (v.lab.name ≠ "" → (initSt (fin e b funcs target) memo orc).get v.lab.vertex =
        some { ty := v.lab.ty, id := val.id, org := v.lab.vertex }) := by
    intro v hv
    obtain ⟨val, hval⟩ := Option.isSome_iff_exists.1 (hex _ (List.mem_map.2 ⟨v, hv, rfl⟩))
    by_cases hn : v.lab.name = ""
    · exact ⟨val, hval, vertex_typed hn ▸ (typed_param_facts e b funcs target v hv hn val hval).1,
        fun h => absurd hn h⟩
    · obtain ⟨h1, h2⟩ := named_param_facts e b funcs target hb v hn val hval memo orc
      exact ⟨val, hval, h1, fun _ => h2⟩
  have hkept : ∀ v ∈ target.input.values,
      (fin e b funcs target).g.hasEdge (.func target.key) v.lab.vertex = true ∧
      v.lab.vertex ∈ (fin e b funcs target).g.verts := fun v hv => by
    obtain ⟨_, _, hk, _⟩ := hpar v hv
    exact param_kept e b funcs target v hv hk
  have hmain := call_exact (C01.stdCtx e b funcs target beh) (callGraph {} e b funcs target false none)
    target (initSt (callGraph {} e b funcs target false none).cg memo orc) n rfl rfl rfl rfl
    (unsat_nil e b funcs target fun v hv => (hkept v hv).2) (callGraph_target e b funcs target) hm rfl
    (fun t st => by rw [hcg, initSt_get, fin_store_noarg]; rfl)
    (fun y hy => fin_target_outs e b funcs target hsame y (by rwa [stdCtx_g, AGraph.mem_outs] at hy))
    (fun v hv => by rw [stdCtx_g, AGraph.mem_outs]; exact (hkept v hv).1)
    (fun v hv hn => by
      obtain ⟨val, _, _, hget⟩ := hpar v hv
      rw [hcg]
      exact ⟨_, hget hn, rfl⟩)
    hgood
  rcases hmain with h | ⟨ev, am, h1, h2, h3, h4, h5⟩
  · exact .inl h
  · refine .inr ⟨ev, ExecEqs.argOf am, h1, h2, h3, h4, fun v hv => ?_⟩
    obtain ⟨a, ha, _, hnm, hty⟩ := h5 v hv
    obtain ⟨val, hval, _, hget⟩ := hpar v hv
    have harg : ExecEqs.argOf am v = { ty := v.lab.ty, id := a.id, org := a.org } := by
      unfold ExecEqs.argOf; rw [ha]
    rw [harg]
    constructor
    · intro hn
      have := hnm hn
      rw [hcg, hget hn] at this
      cases this
      rw [hval]
      rfl
    · intro hn
      obtain ⟨x, hxk, hxt, hxg, _⟩ := hty hn
      rw [initSt_get] at hxg
      cases hst : mapGet (callGraph {} e b funcs target false none).cg.store x with
      | none => rw [hst] at hxg; cases hxg
      | some sv =>
        rw [hst] at hxg
        cases hxg
        refine ⟨?_, hxt, sv, hst, rfl⟩
        unfold Vtx.isOrigin
        rcases hxk with h | h <;> simp [h]

end ArgMapper.ExactWins
