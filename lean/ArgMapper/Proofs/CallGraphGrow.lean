import ArgMapper.Proofs.CallGraphRun
import ArgMapper.Proofs.Maps
/-!
# How `callGraph` builds its graph

`Ext R c c'`: `c'` is obtained from `c` by adding vertices and edges between present vertices, each
new edge being allowed by `R`.  `Grow V S R` refines it: every new vertex satisfies `V`, every value
written to the store satisfies `S`, and `R` also sees the weight of a new edge.  Well-formedness and
persistence of vertices and edges are proved once for `Ext`; for `Grow`, that whatever the result
has and the start had not satisfies `V`, `S`, `R`.

`Gen P` lists the places of `callGraph` where an edge is created, each with everything known there
(`P : Rules` collects what they depend on).  `grow_c1` … `grow_lastV` say that each stage grows from
the one before by `Gen P`, for any variant, with or without Redefine.  What the development needs to
know about the edges, vertices and stored values of a call graph is read off `Gen P` by cases.
`prune` then removes the vertices that are not kept, with their edges, and nothing else.
-/
namespace ArgMapper
open Generated

namespace Prune

/-! ### extensions -/

inductive Ext (R : Vtx → Vtx → Prop) : CG → CG → Prop
  | refl (c) : Ext R c c
  | add {c c'} (v : Vtx) : Ext R c c' → Ext R c (c'.add v)
  | addValued {c c'} (v : Vtx) (x : Val) : Ext R c c' → Ext R c (c'.addValued v x)
  | edge {c c'} (u v : Vtx) (w : Int) : Ext R c c' → u ∈ c'.g.verts → v ∈ c'.g.verts → R u v →
      Ext R c (c'.edge u v w)

namespace Ext
variable {R : Vtx → Vtx → Prop}

theorem mono {R R' : Vtx → Vtx → Prop} (hR : ∀ u v, R u v → R' u v) {a b : CG} (h : Ext R a b) :
    Ext R' a b := by
  induction h with
  | refl => exact .refl _
  | add v _ ih => exact .add v ih
  | addValued v x _ ih => exact .addValued v x ih
  | edge u v w _ hu hv hr ih => exact .edge u v w ih hu hv (hR _ _ hr)

theorem verts {a b : CG} (h : Ext R a b) {x : Vtx} (hx : x ∈ a.g.verts) : x ∈ b.g.verts := by
  induction h with
  | refl => exact hx
  | add v _ ih => exact (AGraph.mem_add_verts _ _ _).2 (.inl ih)
  | addValued v x _ ih => exact (AGraph.mem_add_verts _ _ _).2 (.inl ih)
  | edge u v w _ hu hv hr ih => exact ih

theorem wf {a b : CG} (h : Ext R a b) (hw : a.g.WF) : b.g.WF := by
  induction h with
  | refl => exact hw
  | add v _ ih => exact AGraph.WF_add _ _ ih
  | addValued v x _ ih => exact AGraph.WF_add _ _ ih
  | edge u v w _ hu hv hr ih => exact AGraph.WF_addEdge _ _ _ _ ih hu hv

theorem edge_mono {a b : CG} (h : Ext R a b) {x y : Vtx} (hx : a.g.hasEdge x y = true) :
    b.g.hasEdge x y = true := by
  induction h with
  | refl => exact hx
  | add v _ ih => show (AGraph.add _ v).hasEdge x y = true; rw [CGE.hasEdge_add]; exact ih
  | addValued v x _ ih => show (AGraph.add _ v).hasEdge _ y = true; rw [CGE.hasEdge_add]; exact ih
  | edge u v w _ hu hv hr ih =>
    show (AGraph.addEdge _ u v w).hasEdge x y = true
    exact (CGE.hasEdge_addEdge _ _ _ _ _ _).2 (.inr ih)

theorem edge_inv {a b : CG} (h : Ext R a b) {x y : Vtx} (hx : b.g.hasEdge x y = true) :
    a.g.hasEdge x y = true ∨ R x y := by
  induction h with
  | refl => exact .inl hx
  | add v _ ih =>
    have : (AGraph.add _ v).hasEdge x y = true := hx
    rw [CGE.hasEdge_add] at this; exact ih this
  | addValued v x' _ ih =>
    have : (AGraph.add _ v).hasEdge x y = true := hx
    rw [CGE.hasEdge_add] at this; exact ih this
  | edge u v w _ hu hv hr ih =>
    have : (AGraph.addEdge _ u v w).hasEdge x y = true := hx
    rcases (CGE.hasEdge_addEdge _ _ _ _ _ _).1 this with ⟨rfl, rfl⟩ | h'
    · exact .inr hr
    · exact ih h'

end Ext
end Prune

/-! ### growth -/

inductive Grow (V : Vtx → Prop) (S : Vtx → Val → Prop) (R : Vtx → Vtx → Int → Prop) : CG → CG → Prop
  | refl (c : CG) : Grow V S R c c
  | add {c c'} (v : Vtx) : Grow V S R c c' → V v → Grow V S R c (c'.add v)
  | addValued {c c'} (v : Vtx) (x : Val) : Grow V S R c c' → V v → S v x →
      Grow V S R c (c'.addValued v x)
  | edge {c c'} (u v : Vtx) (w : Int) : Grow V S R c c' → u ∈ c'.g.verts → v ∈ c'.g.verts → R u v w →
      Grow V S R c (c'.edge u v w)

namespace Grow
variable {V : Vtx → Prop} {S : Vtx → Val → Prop} {R : Vtx → Vtx → Int → Prop}

theorem trans {a b c : CG} (h1 : Grow V S R a b) (h2 : Grow V S R b c) : Grow V S R a c := by
  induction h2 with
  | refl => exact h1
  | add v _ hv ih => exact .add v ih hv
  | addValued v x _ hv hs ih => exact .addValued v x ih hv hs
  | edge u v w _ hu hv hr ih => exact .edge u v w ih hu hv hr

theorem toExt {a b : CG} (h : Grow V S R a b) : Prune.Ext (fun u v => ∃ w, R u v w) a b := by
  induction h with
  | refl => exact .refl _
  | add v _ _ ih => exact .add v ih
  | addValued v x _ _ _ ih => exact .addValued v x ih
  | edge u v w _ hu hv hr ih => exact .edge u v w ih hu hv ⟨w, hr⟩

theorem verts {a b : CG} (h : Grow V S R a b) {x : Vtx} (hx : x ∈ a.g.verts) : x ∈ b.g.verts :=
  h.toExt.verts hx

theorem wf {a b : CG} (h : Grow V S R a b) (hw : a.g.WF) : b.g.WF := h.toExt.wf hw

theorem hasEdge {a b : CG} (h : Grow V S R a b) {x y : Vtx} (hx : a.g.hasEdge x y = true) :
    b.g.hasEdge x y = true := h.toExt.edge_mono hx

theorem verts_inv {a b : CG} (h : Grow V S R a b) {x : Vtx} (hx : x ∈ b.g.verts) :
    x ∈ a.g.verts ∨ V x := by
  induction h with
  | refl => exact .inl hx
  | add v _ hv ih =>
    rcases (AGraph.mem_add_verts _ _ _).1 hx with h | rfl
    · exact ih h
    · exact .inr hv
  | addValued v x' _ hv _ ih =>
    rcases (AGraph.mem_add_verts _ _ _).1 hx with h | rfl
    · exact ih h
    · exact .inr hv
  | edge u v w _ _ _ _ ih => exact ih hx

theorem weight_inv {a b : CG} (h : Grow V S R a b) {x y : Vtx} {w : Int}
    (hw : b.g.weight x y = some w) : a.g.weight x y = some w ∨ R x y w := by
  induction h with
  | refl => exact .inl hw
  | add v _ _ ih =>
    have : (AGraph.add _ v).weight x y = some w := hw
    rw [AGraph.weight_add] at this; exact ih this
  | addValued v x' _ _ _ ih =>
    have : (AGraph.add _ v).weight x y = some w := hw
    rw [AGraph.weight_add] at this; exact ih this
  | edge u v w' _ _ _ hr ih =>
    have : (AGraph.addEdge _ u v w').weight x y = some w := hw
    rw [AGraph.weight_addEdge] at this
    split at this
    · next hxy =>
      obtain ⟨rfl, rfl⟩ := hxy
      cases this
      exact .inr hr
    · exact ih this

theorem store_inv {a b : CG} (h : Grow V S R a b) {p : Vtx × Val} (hp : p ∈ b.store) :
    p ∈ a.store ∨ S p.1 p.2 := by
  induction h with
  | refl => exact .inl hp
  | add v _ _ ih => exact ih hp
  | addValued v x _ _ hs ih =>
    rcases mem_mapSet (show p ∈ mapSet _ v x from hp) with h | rfl
    · exact ih h
    · exact .inr hs
  | edge u v w _ _ _ _ ih => exact ih hp

theorem store_eq {a b : CG} (h : Grow V (fun _ _ => False) R a b) : b.store = a.store := by
  induction h with
  | refl => rfl
  | add v _ _ ih => exact ih
  | addValued v x _ _ hs _ => exact hs.elim
  | edge u v w _ _ _ _ ih => exact ih

theorem foldl {β : Type} (step : CG → β → CG) (c0 : CG) (l : List β)
    (hstep : ∀ c x, x ∈ l → Grow V S R c0 c → Grow V S R c (step c x)) :
    ∀ c, Grow V S R c0 c → Grow V S R c0 (l.foldl step c) :=
  foldl_inv_mem (Grow V S R c0) step l fun c x hx h => h.trans (hstep c x hx h)

theorem add_edge_to {c0 c : CG} (h : Grow V S R c0 c) {u v : Vtx} {w : Int} (hu : u ∈ c.g.verts)
    (hv : V v) (hr : R u v w) : Grow V S R c0 ((c.add v).edge u v w) :=
  .edge u v w (.add v h hv) ((AGraph.mem_add_verts _ _ _).2 (.inl hu))
    ((AGraph.mem_add_verts _ _ _).2 (.inr rfl)) hr

theorem add_edge_from {c0 c : CG} (h : Grow V S R c0 c) {u v : Vtx} {w : Int} (hv : v ∈ c.g.verts)
    (hu : V u) (hr : R u v w) : Grow V S R c0 ((c.add u).edge u v w) :=
  .edge u v w (.add u h hu) ((AGraph.mem_add_verts _ _ _).2 (.inr rfl))
    ((AGraph.mem_add_verts _ _ _).2 (.inl hv)) hr

end Grow

/-! ### where `callGraph` creates vertices and edges -/

structure Rules where
  env : TypeEnv
  skipSame : Bool
  nameTest : Bool
  /-- the functions whose vertex and requirement edges are built: the target and the converters -/
  fs : List FuncDesc
  /-- the converters: their output edges are built too -/
  convs : List FuncDesc
  /-- the vertices of the supplied values -/
  ins : List Vtx
  redefining : Bool
  filter : Option Filter

/-- dependent → requirement → weight, one constructor for each place where `callGraph` (`funcGraph`,
`inputsGraph`, R3–R8) adds an edge -/
inductive Gen (P : Rules) : Vtx → Vtx → Int → Prop
  | funcRoot (f : FuncDesc) : f ∈ P.fs → f.input.empty = true → Gen P (.func f.key) .root weightNormal
  | req (f : FuncDesc) (val : SVal) : f ∈ P.fs → val ∈ f.input.values →
      Gen P (.func f.key) val.lab.vertex (reqWeight val.lab)
  | input (x : Vtx) : x ∈ P.ins → Gen P x .root weightNormal
  | outNamed (f : FuncDesc) (p : String × SVal) : f ∈ P.convs → p ∈ f.output.named →
      Gen P (.value p.1 p.2.lab.ty p.2.lab.sub) (.func f.key) weightNormal
  | outTyped (f : FuncDesc) (p : Nat × SVal) : f ∈ P.convs → p ∈ f.output.typed →
      Gen P (.out p.2.lab.ty p.2.lab.sub) (.func f.key) weightTyped
  | valueOut (n : String) (t : Nat) (s : String) : Gen P (.value n t s) (.out t "") weightTyped
  | argValue (n : String) (t : Nat) (s : String) : Gen P (.arg t "") (.value n t s) weightTyped
  | argValueSub (n : String) (t : Nat) (s : String) : s ≠ "" → Gen P (.arg t s) (.value n t s) weightTyped
  | argOut (t : Nat) (s : String) : Gen P (.arg t s) (.out t s) weightTyped
  | ifaceOut (i : Nat) (s : String) (t' : Nat) (s' : String) : P.env.isIface i = true →
      Vtx.out t' s' ≠ .out i s → P.env.impl t' i = true → ¬ (P.skipSame = true ∧ t' = i) →
      Gen P (.out i s) (.out t' s') weightTyped
  | valueValue (n : String) (t : Nat) (n' s' : String) : s' ≠ "" → ¬ (P.nameTest = true ∧ n' ≠ n) →
      Gen P (.value n t "") (.value n' t s') weightTyped
  | argOutSub (t : Nat) (s s' : String) : (s = "" ∧ s' ≠ "") ∨ (s ≠ "" ∧ s' = "") →
      Gen P (.arg t s) (.out t s') weightTypedOtherSubtype
  | redefine (v : Vtx) : P.redefining = true → (v.isValue = true ∨ v.isArg = true) →
      RedefineInputs.passesF P.env P.filter v.ty = true → Gen P v .root weightNormal

/-- where a value vertex comes from; other vertices are not described -/
inductive GenV (P : Rules) : Vtx → Prop
  | other (v : Vtx) : v.isValue = false → GenV P v
  | req (f : FuncDesc) (val : SVal) : f ∈ P.fs → val ∈ f.input.values → GenV P val.lab.vertex
  | outNamed (f : FuncDesc) (p : String × SVal) : f ∈ P.convs → p ∈ f.output.named →
      GenV P (.value p.1 p.2.lab.ty p.2.lab.sub)
  | input (x : Vtx) : x ∈ P.ins → GenV P x

/-! ### the phases grow the graph -/

section Phases
variable {P : Rules} {S : Vtx → Val → Prop}

theorem grow_funcIn (c : CG) (f : FuncDesc) (hf : f ∈ P.fs) (hroot : Vtx.root ∈ c.g.verts) :
    Grow (GenV P) S (Gen P) c (funcIn c f) := by
  unfold funcIn
  have e1 : Grow (GenV P) S (Gen P) c (c.add (.func f.key)) := .add _ (.refl c) (.other _ rfl)
  have hv : ∀ {c'}, Grow (GenV P) S (Gen P) (c.add (.func f.key)) c' → Vtx.func f.key ∈ c'.g.verts :=
    fun h => h.verts ((AGraph.mem_add_verts _ _ _).2 (.inr rfl))
  apply e1.trans
  apply Grow.foldl
  · intro c' val hval hc'
    exact Grow.add_edge_to (.refl _) (hv hc') (.req f val hf hval) (.req f val hf hval)
  · split
    · next he =>
      exact .edge _ _ _ (.refl _) (hv (.refl _)) ((AGraph.mem_add_verts _ _ _).2 (.inl hroot))
        (.funcRoot f hf he)
    · exact .refl _

theorem func_mem_funcIn (c : CG) (f : FuncDesc) : Vtx.func f.key ∈ (funcIn c f).g.verts := by
  rw [RedefC.funcIn_run, RedefC.mem_run_verts]
  exact .inr List.mem_cons_self

theorem grow_funcGraph (c : CG) (f : FuncDesc) (io : Bool) (hf : f ∈ P.fs) (hio : io = true → f ∈ P.convs)
    (hroot : Vtx.root ∈ c.g.verts) : Grow (GenV P) S (Gen P) c (funcGraph c f io) := by
  cases io with
  | false => rw [funcGraph_false]; exact grow_funcIn c f hf hroot
  | true =>
    rw [funcGraph_true]
    apply (grow_funcIn c f hf hroot).trans
    apply Grow.foldl _ (funcIn c f)
    · intro c' p hp hc'
      exact Grow.add_edge_from (.refl _) (hc'.verts (func_mem_funcIn c f)) (.other _ rfl)
        (.outTyped f p (hio rfl) hp)
    · apply Grow.foldl _ (funcIn c f)
      · intro c' p hp hc'
        exact Grow.add_edge_from (.refl _) (hc'.verts (func_mem_funcIn c f)) (.outNamed f p (hio rfl) hp)
          (.outNamed f p (hio rfl) hp)
      · exact .refl _

theorem grow_convs (funcs : Nat → Option FuncDesc) (convs : List Nat) (c : CG)
    (hfs : ∀ fid ∈ convs, ∀ f, funcs fid = some f → f ∈ P.fs ∧ f ∈ P.convs)
    (hroot : Vtx.root ∈ c.g.verts) :
    Grow (GenV P) S (Gen P) c (convs.foldl (Prune.convStep funcs) c) := by
  apply Grow.foldl _ c _ _ c (.refl c)
  intro c' fid hfid hc'
  unfold Prune.convStep
  split
  · next f hf =>
    exact grow_funcGraph c' f true (hfs fid hfid f hf).1 (fun _ => (hfs fid hfid f hf).2) (hc'.verts hroot)
  · exact .refl _

theorem grow_supply (l : List (Vtx × Val)) (c : CG) (hl : ∀ vx ∈ l, vx.1 ∈ P.ins ∧ S vx.1 vx.2)
    (hroot : Vtx.root ∈ c.g.verts) : Grow (GenV P) S (Gen P) c (l.foldl supply c) := by
  apply Grow.foldl _ c _ _ c (.refl c)
  intro c' vx hvx hc'
  exact .edge _ _ _ (.addValued _ _ (.refl _) (.input _ (hl vx hvx).1) (hl vx hvx).2)
    ((AGraph.mem_add_verts _ _ _).2 (.inr rfl)) ((AGraph.mem_add_verts _ _ _).2 (.inl (hc'.verts hroot)))
    (.input _ (hl vx hvx).1)

/-- R3–R8 add no value vertex -/
theorem grow_phaseR3 {V : Vtx → Prop} (hV : ∀ v, v.isValue = false → V v) (c : CG) :
    Grow V S (Gen P) c (phaseR3 c) := by
  unfold phaseR3
  apply Grow.foldl _ c _ _ c (.refl c)
  intro c' v hv hc'
  rw [List.mem_filter] at hv
  cases v with
  | value n t s =>
    have hvm : Vtx.value n t s ∈ c'.g.verts := hc'.verts hv.1
    have e1 : Grow V S (Gen P) c' ((c'.add (.out t "")).edge (.value n t s) (.out t "") weightTyped) :=
      Grow.add_edge_to (.refl _) hvm (hV _ rfl) (.valueOut n t s)
    have e2 := Grow.add_edge_from (u := .arg t "") (w := weightTyped) e1 (e1.verts hvm) (hV _ rfl)
      (.argValue n t s)
    by_cases hs : (Vtx.value n t s).sub ≠ ""
    · rw [if_pos hs]
      exact Grow.add_edge_from e2 (e2.verts hvm) (hV _ rfl) (.argValueSub n t s hs)
    · rw [if_neg hs]
      exact e2
  | _ => cases hv.2

theorem grow_phaseR4 {V : Vtx → Prop} (hV : ∀ v, v.isValue = false → V v) (c : CG) :
    Grow V S (Gen P) c (phaseR4 c) := by
  unfold phaseR4
  apply Grow.foldl _ c _ _ c (.refl c)
  intro c' v hv hc'
  rw [List.mem_filter] at hv
  cases v with
  | arg t s => exact Grow.add_edge_to (.refl _) (hc'.verts hv.1) (hV _ rfl) (.argOut t s)
  | _ => cases hv.2

theorem grow_nested {V : Vtx → Prop} {R : Vtx → Vtx → Int → Prop} (p : Vtx → Bool) (q : Vtx → Vtx → Bool)
    (w : Int) (c : CG) (hR : ∀ v v2, p v = true → q v v2 = true → R v v2 w) :
    Grow V S R c (nested p q w c) := by
  unfold nested
  apply Grow.foldl _ c _ _ c (.refl c)
  intro c' v hv hc'
  rw [List.mem_filter] at hv
  apply Grow.foldl _ c' _ _ c' (.refl c')
  intro c'' v2 hv2 hc''
  rw [List.mem_filter] at hv2
  exact .edge _ _ _ (.refl _) (hc''.verts (hc'.verts hv.1)) (hc''.verts hv2.1) (hR _ _ hv.2 hv2.2)

theorem grow_phaseR5 {V : Vtx → Prop} (c : CG) : Grow V S (Gen P) c (phaseR5 P.env P.skipSame c) := by
  rw [phaseR5_eq]
  apply grow_nested
  intro v v2 hv hv2
  cases v <;> simp only [r5p, Vtx.isOut, Bool.false_and, Bool.false_eq_true] at hv
  cases v2 <;> simp only [r5q, Vtx.isOut, Bool.false_and, Bool.false_eq_true] at hv2
  simp only [Vtx.ty, Bool.true_and, Bool.and_eq_true, Bool.not_eq_true', decide_eq_true_eq,
    Bool.and_eq_false_iff, beq_eq_false_iff_ne, ne_eq] at hv hv2
  refine .ifaceOut _ _ _ _ hv hv2.1.1 hv2.1.2 ?_
  rintro ⟨h1, h2⟩
  rcases hv2.2 with h | h
  · rw [h1] at h; cases h
  · exact h h2

theorem grow_phaseR6 {V : Vtx → Prop} (c : CG) : Grow V S (Gen P) c (phaseR6 P.nameTest c) := by
  rw [phaseR6_eq]
  apply grow_nested
  intro v v2 hv hv2
  cases v <;> simp only [r6p, Vtx.isValue, Bool.false_and, Bool.false_eq_true] at hv
  cases v2 <;> simp only [r6q, Vtx.isValue, Bool.false_and, Bool.false_eq_true] at hv2
  simp only [Vtx.ty, Vtx.sub, Vtx.name, Bool.true_and, Bool.and_eq_true, Bool.not_eq_true', beq_iff_eq,
    bne_iff_ne, ne_eq, Bool.and_eq_false_iff, bne_eq_false_iff_eq] at hv hv2
  obtain ⟨⟨rfl, hs⟩, hn⟩ := hv2
  rw [hv.1]
  refine .valueValue _ _ _ _ hs ?_
  rintro ⟨h1, h2⟩
  rcases hn with h | h
  · rw [h1] at h; cases h
  · exact h2 h

theorem grow_phaseR7 {V : Vtx → Prop} (c : CG) : Grow V S (Gen P) c (phaseR7 c) := by
  rw [phaseR7_eq]
  refine (grow_nested r7p r7q _ c ?_).trans (grow_nested r7p' r7q' _ _ ?_)
  · intro v v2 hv hv2
    cases v <;> simp only [r7p, Vtx.isArg, Bool.false_and, Bool.false_eq_true] at hv
    cases v2 <;> simp only [r7q, Vtx.isOut, Bool.false_and, Bool.false_eq_true] at hv2
    simp only [Vtx.ty, Vtx.sub, Bool.true_and, Bool.and_eq_true, beq_iff_eq, bne_iff_ne, ne_eq] at hv hv2
    obtain ⟨rfl, hs⟩ := hv2
    exact .argOutSub _ _ _ (.inl ⟨hv, hs⟩)
  · intro v v2 hv hv2
    cases v <;> simp only [r7p', Vtx.isArg, Bool.false_and, Bool.false_eq_true] at hv
    cases v2 <;> simp only [r7q', Vtx.isOut, Bool.false_and, Bool.false_eq_true] at hv2
    simp only [Vtx.ty, Vtx.sub, Bool.true_and, Bool.and_eq_true, beq_iff_eq, bne_iff_ne, ne_eq] at hv hv2
    obtain ⟨rfl, hs⟩ := hv2
    exact .argOutSub _ _ _ (.inr ⟨hv, hs⟩)

theorem grow_phaseR8 {V : Vtx → Prop} {R : Vtx → Vtx → Int → Prop} (e : TypeEnv) (filter : Option Filter)
    (sk : Bool) (c : CG) (hroot : Vtx.root ∈ c.g.verts)
    (hR : ∀ v, v.isValue = true ∨ v.isArg = true → RedefineInputs.passesF e filter v.ty = true →
      R v .root weightNormal) :
    Grow V S R c (phaseR8 e filter sk c) := by
  rw [phaseR8_eq]
  apply Grow.foldl _ c _ _ c (.refl c)
  intro c' v hv hc'
  rw [List.mem_filter, Bool.or_eq_true] at hv
  unfold r8Step
  split
  · exact .refl _
  · next h =>
    refine .edge _ _ _ (.refl _) (hc'.verts hv.1) (hc'.verts hroot) (hR v hv.2 ?_)
    cases hp : RedefineInputs.passesF e filter v.ty
    · exact absurd (.inr hp) h
    · rfl

end Phases

/-! ### the stages of `callGraph` -/

open ExactWins

namespace ExactWins

theorem root_mem_c0 : Vtx.root ∈ c0.g.verts := (AGraph.mem_add_verts _ _ _).2 (.inr rfl)

theorem c0_wf : c0.g.WF := AGraph.WF_add _ _ AGraph.WF_empty

theorem c0_weight (x y : Vtx) : c0.g.weight x y = none := by
  show (AGraph.add _ _).weight x y = none
  rw [AGraph.weight_add]
  rfl

theorem mem_c0_verts {x : Vtx} (h : x ∈ c0.g.verts) : x = .root := by
  rcases (AGraph.mem_add_verts _ _ _).1 h with h | h
  · cases h
  · exact h

end ExactWins

def rulesOf (var : Variant) (e : TypeEnv) (b : Builder) (funcs : Nat → Option FuncDesc)
    (target : FuncDesc) (rd : Bool) (filter : Option Filter) : Rules :=
  { env := e, skipSame := var.r5SkipSame, nameTest := var.r6NameTest,
    fs := target :: b.convs.filterMap funcs, convs := b.convs.filterMap funcs,
    ins := Prune.inputsList b, redefining := rd, filter := filter }

section Stages
variable (var : Variant) (e : TypeEnv) (b : Builder) (funcs : Nat → Option FuncDesc)
  (target : FuncDesc) (rd : Bool) (filter : Option Filter) {S : Vtx → Val → Prop}

theorem grow_c1 : Grow (GenV (rulesOf var e b funcs target rd filter)) S
    (Gen (rulesOf var e b funcs target rd filter)) c0 (c1 target) :=
  grow_funcGraph c0 target false List.mem_cons_self (fun h => by cases h) root_mem_c0

theorem root_mem_c1 : Vtx.root ∈ (c1 target).g.verts := by
  unfold c1
  rw [RedefC.funcGraph_run, RedefC.mem_run_verts]
  exact .inl root_mem_c0

theorem c1_hasEdge {x y : Vtx} (h : (c1 target).g.hasEdge x y = true) :
    x = .func target.key ∧ (y = .root ∨ ∃ v ∈ target.input.values, y = v.lab.vertex) := by
  unfold c1 at h
  rw [RedefC.funcGraph_run, RedefC.run_hasEdge, AGraph.hasEdge_iff_weight] at h
  rcases h with ⟨w, hw⟩ | ⟨w, hw⟩
  · rw [c0_weight] at hw; cases hw
  · simp only [RedefC.funcOps, RedefC.funcInOps, RedefC.valOps, Bool.false_eq_true, if_false, List.append_nil,
      List.mem_cons, List.mem_append, List.mem_flatMap, List.not_mem_nil, or_false, reduceCtorEq,
      false_or, RedefC.Op.edge.injEq] at hw
    rcases hw with hw | ⟨val, hval, h1, h2, _⟩
    · split at hw
      · simp only [List.mem_cons, RedefC.Op.edge.injEq, List.not_mem_nil, or_false] at hw
        exact ⟨hw.1, .inl hw.2.1⟩
      · cases hw
    · exact ⟨h1, .inr ⟨val, hval, h2⟩⟩

theorem c2_eq : c2 b target = (Prune.inputsPairs b).foldl supply (c1 target) := by
  unfold c2
  rw [inputsGraph_eq]

/-- `inputsGraph` is the one phase that writes to the value store -/
theorem grow_c2 : Grow (GenV (rulesOf var e b funcs target rd filter)) (fun v x => (v, x) ∈ Prune.inputsPairs b)
    (Gen (rulesOf var e b funcs target rd filter)) (c1 target) (c2 b target) := by
  rw [c2_eq]
  exact grow_supply _ _ (fun vx hvx => ⟨Prune.mem_inputsList.2 ⟨vx.2, hvx⟩, hvx⟩) (root_mem_c1 target)

theorem root_mem_c2 : Vtx.root ∈ (c2 b target).g.verts := by
  rw [c2_eq, RedefC.supply_run, RedefC.mem_run_verts]
  exact .inl (root_mem_c1 target)

theorem grow_c3 : Grow (GenV (rulesOf var e b funcs target rd filter)) S
    (Gen (rulesOf var e b funcs target rd filter)) (c2 b target) (c3 b funcs target) := by
  rw [c3_eq]
  refine grow_convs funcs b.convs _ (fun fid hfid f hf => ?_) (root_mem_c2 b target)
  have : f ∈ b.convs.filterMap funcs := List.mem_filterMap.2 ⟨fid, hfid, hf⟩
  exact ⟨List.mem_cons_of_mem _ this, this⟩

theorem grow_preV {V : Vtx → Prop} (hV : ∀ v, v.isValue = false → V v) : Grow V S
    (Gen (rulesOf var e b funcs target rd filter)) (c3 b funcs target) (preV var e b funcs target) :=
  ((((grow_phaseR3 hV _).trans (grow_phaseR4 hV _)).trans (grow_phaseR5 _)).trans (grow_phaseR6 _)).trans
    (grow_phaseR7 _)

theorem grow_lastV_c2 : Grow (GenV (rulesOf var e b funcs target rd filter)) S
    (Gen (rulesOf var e b funcs target rd filter)) (c2 b target) (lastV var e b funcs target rd filter) := by
  have h := (grow_c3 (S := S) var e b funcs target rd filter).trans
    (grow_preV var e b funcs target rd filter .other)
  unfold lastV
  split
  · next hrd =>
    exact h.trans (grow_phaseR8 e filter _ _ (h.verts (root_mem_c2 b target)) (fun v hk hp =>
      .redefine (P := rulesOf var e b funcs target rd filter) v hrd hk hp))
  · exact h

theorem grow_lastV : Grow (GenV (rulesOf var e b funcs target rd filter)) (fun v x => (v, x) ∈ Prune.inputsPairs b)
    (Gen (rulesOf var e b funcs target rd filter)) c0 (lastV var e b funcs target rd filter) :=
  ((grow_c1 var e b funcs target rd filter).trans (grow_c2 var e b funcs target rd filter)).trans
    (grow_lastV_c2 var e b funcs target rd filter)

theorem lastV_wf : (lastV var e b funcs target rd filter).g.WF :=
  (grow_lastV var e b funcs target rd filter).wf c0_wf

theorem lastV_root : Vtx.root ∈ (lastV var e b funcs target rd filter).g.verts :=
  (grow_lastV var e b funcs target rd filter).verts root_mem_c0

theorem lastV_weight {x y : Vtx} {w : Int} (h : (lastV var e b funcs target rd filter).g.weight x y = some w) :
    Gen (rulesOf var e b funcs target rd filter) x y w := by
  rcases (grow_lastV var e b funcs target rd filter).weight_inv h with h' | h'
  · rw [c0_weight] at h'; cases h'
  · exact h'

theorem lastV_verts {x : Vtx} (h : x ∈ (lastV var e b funcs target rd filter).g.verts) :
    GenV (rulesOf var e b funcs target rd filter) x := by
  rcases (grow_lastV var e b funcs target rd filter).verts_inv h with h' | h'
  · rw [mem_c0_verts h']; exact .other _ rfl
  · exact h'

theorem lastV_store {p : Vtx × Val} (h : p ∈ (lastV var e b funcs target rd filter).store) :
    p ∈ Prune.inputsPairs b := by
  rcases (grow_lastV var e b funcs target rd filter).store_inv h with h' | h'
  · cases h'
  · exact h'

theorem lastV_store_eq : (lastV var e b funcs target rd filter).store = (c2 b target).store :=
  (grow_lastV_c2 var e b funcs target rd filter).store_eq

end Stages

/-! ### the `Call` graph before pruning -/

namespace ExactWins

theorem callGraph_cg (e : TypeEnv) (b : Builder) (funcs : Nat → Option FuncDesc) (target : FuncDesc) :
    (callGraph {} e b funcs target false none).cg = prune (pre e b funcs target) (.func target.key) := by
  rw [ArgMapper.callGraph_cg, lastV_false, preV_std]

theorem callGraph_unsat (e : TypeEnv) (b : Builder) (funcs : Nat → Option FuncDesc) (target : FuncDesc) :
    (callGraph {} e b funcs target false none).unsat =
      (((c1 target).g.outs (.func target.key)).filter (fun r =>
        !(prune (pre e b funcs target) (.func target.key)).g.hasVertex r)).map Vtx.label := by
  rw [ArgMapper.callGraph_unsat, lastV_false, preV_std]

theorem callGraph_target (e : TypeEnv) (b : Builder) (funcs : Nat → Option FuncDesc) (target : FuncDesc) :
    (callGraph {} e b funcs target false none).target = .func target.key := rfl

section
variable (e : TypeEnv) (b : Builder) (funcs : Nat → Option FuncDesc) (target : FuncDesc)

abbrev Built : CG → CG → Prop :=
  Grow (GenV (rulesOf {} e b funcs target false none)) (fun v x => (v, x) ∈ Prune.inputsPairs b)
    (Gen (rulesOf {} e b funcs target false none))

theorem built_pre_c3 : Built e b funcs target (c3 b funcs target) (pre e b funcs target) :=
  grow_preV {} e b funcs target false none .other

theorem built_pre_c2 : Built e b funcs target (c2 b target) (pre e b funcs target) :=
  (grow_c3 {} e b funcs target false none).trans (built_pre_c3 e b funcs target)

theorem built_pre_c1 : Built e b funcs target (c1 target) (pre e b funcs target) :=
  (grow_c2 {} e b funcs target false none).trans (built_pre_c2 e b funcs target)

theorem pre_eq_lastV : pre e b funcs target = lastV {} e b funcs target false none := by
  rw [lastV_false, preV_std]

theorem pre_wf : (pre e b funcs target).g.WF := by
  rw [pre_eq_lastV]; exact lastV_wf _ _ _ _ _ _ _

theorem pre_root : Vtx.root ∈ (pre e b funcs target).g.verts := by
  rw [pre_eq_lastV]; exact lastV_root _ _ _ _ _ _ _

theorem pre_store : (pre e b funcs target).store = (c2 b target).store := by
  rw [pre_eq_lastV]; exact lastV_store_eq _ _ _ _ _ _ _

theorem inputs_edge_root (u : Vtx) (hu : u ∈ Prune.inputsList b) :
    (pre e b funcs target).g.hasEdge u .root = true := by
  refine (built_pre_c2 e b funcs target).hasEdge ?_
  rw [c2_eq]
  exact RedefC.supply_root_edge _ b u hu

/-- R4 survives into the graph before pruning: R5–R7 add no vertex, R4 no argument vertex -/
theorem pre_arg_out (t : Nat) (s : String) (h : Vtx.arg t s ∈ (pre e b funcs target).g.verts) :
    (pre e b funcs target).g.hasEdge (.arg t s) (.out t s) = true := by
  unfold pre at h ⊢
  rw [phaseR7_eq, phaseR6_eq, phaseR5_eq] at h ⊢
  rw [RedefC.nested_verts, RedefC.nested_verts, RedefC.nested_verts, RedefC.nested_verts] at h
  exact RedefC.nested_hasEdge (RedefC.nested_hasEdge (RedefC.nested_hasEdge (RedefC.nested_hasEdge
    (RedefC.phaseR4_edge _ t s (RedefC.arg_mem_phaseR4 h)) _ _ _) _ _ _) _ _ _) _ _ _

theorem pre_conv_req_edge (fid : Nat) (hfid : fid ∈ b.convs) (f : FuncDesc) (hf : funcs fid = some f)
    (v : SVal) (hv : v ∈ f.input.values) :
    (pre e b funcs target).g.hasEdge (.func f.key) v.lab.vertex = true := by
  refine (built_pre_c3 e b funcs target).hasEdge ?_
  rw [c3_eq]
  exact RedefC.convs_req_edge funcs b.convs _ fid hfid f hf v hv

end


end ExactWins

/-! ### `prune` removes the vertices that are not kept, with their edges, and nothing else -/

namespace ExactWins

theorem foldl_remove_verts (L : List Vtx) : ∀ (c : CG) (x : Vtx),
    x ∈ (L.foldl (fun (c : CG) v => { c with g := c.g.remove v }) c).g.verts ↔ x ∈ c.g.verts ∧ x ∉ L := by
  induction L with
  | nil => intro c x; simp
  | cons a L ih =>
    intro c x
    rw [List.foldl_cons, ih]
    simp only [AGraph.mem_remove_verts, List.mem_cons, not_or]
    constructor
    · rintro ⟨⟨h1, h2⟩, h3⟩; exact ⟨h1, h2, h3⟩
    · rintro ⟨h1, h2, h3⟩; exact ⟨⟨h1, h2⟩, h3⟩

theorem foldl_remove_weight (L : List Vtx) : ∀ (c : CG) (x y : Vtx),
    (L.foldl (fun (c : CG) v => { c with g := c.g.remove v }) c).g.weight x y =
      if x ∈ L ∨ y ∈ L then none else c.g.weight x y := by
  induction L with
  | nil => intro c x y; simp
  | cons a L ih =>
    intro c x y
    rw [List.foldl_cons, ih]
    simp only [AGraph.weight_remove, List.mem_cons]
    by_cases h1 : x ∈ L ∨ y ∈ L
    · rw [if_pos h1, if_pos (h1.imp .inr .inr)]
    · rw [if_neg h1]
      by_cases h2 : x = a ∨ y = a
      · rw [if_pos h2, if_pos (h2.imp .inl .inl)]
      · rw [if_neg h2, if_neg]
        rintro ((h | h) | (h | h))
        · exact h2 (.inl h)
        · exact h1 (.inl h)
        · exact h2 (.inr h)
        · exact h1 (.inr h)

theorem foldl_remove_wf (L : List Vtx) : ∀ (c : CG), c.g.WF →
    (L.foldl (fun (c : CG) v => { c with g := c.g.remove v }) c).g.WF := by
  induction L with
  | nil => intro c h; exact h
  | cons a L ih => intro c h; exact ih _ (AGraph.WF_remove _ _ h)

theorem foldl_remove_store (L : List Vtx) : ∀ (c : CG),
    (L.foldl (fun (c : CG) v => { c with g := c.g.remove v }) c).store = c.store := by
  induction L with
  | nil => intro c; rfl
  | cons a L ih => intro c; exact ih _

theorem store_prune (c : CG) (t : Vtx) : (prune c t).store = c.store := foldl_remove_store _ c

theorem prune_wf (c : CG) (hwf : c.g.WF) (t : Vtx) : (prune c t).g.WF := foldl_remove_wf _ c hwf

theorem mem_pruned (c : CG) (t x : Vtx) :
    x ∈ c.g.verts.filter (fun v => !decide (v ∈ Vtx.root ::
      (Traverse.DFS c.g.reverse (fun v => if v = t then .skip else .descend) .root).log)) ↔
    x ∈ c.g.verts ∧ ¬ Kept c t x := by
  simp only [List.mem_filter, Bool.not_eq_true', decide_eq_false_iff_not, List.mem_cons, Kept]

theorem prune_verts (c : CG) (t x : Vtx) : x ∈ (prune c t).g.verts ↔ x ∈ c.g.verts ∧ Kept c t x := by
  unfold prune
  dsimp only
  rw [foldl_remove_verts, mem_pruned]
  constructor
  · rintro ⟨h1, h2⟩; exact ⟨h1, Classical.not_not.1 fun hk => h2 ⟨h1, hk⟩⟩
  · rintro ⟨h1, h2⟩; exact ⟨h1, fun h => h.2 h2⟩

theorem prune_weight (c : CG) (hwf : c.g.WF) (t x y : Vtx) (w : Int) :
    (prune c t).g.weight x y = some w ↔ c.g.weight x y = some w ∧ Kept c t x ∧ Kept c t y := by
  unfold prune
  dsimp only
  rw [foldl_remove_weight]
  constructor
  · intro h
    split at h
    · cases h
    · next hn =>
      obtain ⟨hx, hy⟩ := AGraph.weight_verts hwf h
      exact ⟨h, Classical.not_not.1 fun hk => hn (.inl ((mem_pruned c t x).2 ⟨hx, hk⟩)),
        Classical.not_not.1 fun hk => hn (.inr ((mem_pruned c t y).2 ⟨hy, hk⟩))⟩
  · rintro ⟨h, hx, hy⟩
    rw [if_neg]
    · exact h
    · rintro (hk | hk)
      · exact ((mem_pruned c t x).1 hk).2 hx
      · exact ((mem_pruned c t y).1 hk).2 hy

theorem weight_prune {c : CG} {t x y : Vtx} {w : Int} (h : (prune c t).g.weight x y = some w) :
    c.g.weight x y = some w := by
  unfold prune at h
  dsimp only at h
  rw [foldl_remove_weight] at h
  split at h
  · cases h
  · exact h

theorem hasEdge_prune (c : CG) (t x y : Vtx) (h : (prune c t).g.hasEdge x y = true) :
    c.g.hasEdge x y = true := by
  obtain ⟨w, hw⟩ := Option.isSome_iff_exists.1 h
  exact Option.isSome_iff_exists.2 ⟨w, weight_prune hw⟩

end ExactWins

end ArgMapper
