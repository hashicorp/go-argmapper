import ArgMapper.Proofs.DijkstraExact
/-!
# Helper lemmas for C18b: corollaries of exactness
-/
namespace ArgMapper.DijkstraProofs
open ArgMapper AGraph Dijkstra C18
variable {α : Type} [DecidableEq α]
variable {g : AGraph α}

theorem distSpec_unique {u v : α} {d1 d2 : Int} (h1 : IsDist g u v d1)
    (h2 : IsDist g u v d2) : d1 = d2 := by
  obtain ⟨⟨p1, hp1, hw1⟩, hl1⟩ := h1
  obtain ⟨⟨p2, hp2, hw2⟩, hl2⟩ := h2
  have a := hl1 p2 hp2
  have b := hl2 p1 hp1
  omega

theorem distSpec_nonneg (hn : NonNeg g) {u v : α} {d : Int} (h : IsDist g u v d) :
    0 ≤ d := by
  obtain ⟨⟨p, _, hw⟩, _⟩ := h
  rw [← hw]; exact pathWeight_nonneg hn p

theorem distSpec_edge {s u v : α} {du dv w : Int} (h1 : IsDist g s u du)
    (h2 : IsDist g s v dv) (hw : g.weight u v = some w) : dv ≤ du + w := by
  obtain ⟨⟨p, hp, hpw⟩, _⟩ := h1
  obtain ⟨hq, hqw⟩ := pathFT_snoc hp hw
  have := h2.2 _ hq
  omega

theorem distSpec_self (hn : NonNeg g) {s : α} {d : Int} (h : IsDist g s s d) :
    d = 0 := by
  have h0 := distSpec_nonneg hn h
  have := h.2 [s] ⟨rfl, rfl, trivial⟩
  simp only [pathWeight] at this
  omega

theorem final_link {src : α} (h : Hyp g src) (pops : List α)
    (hl : LegalPops g src pops) (v : α) (hr : Reach g src v) :
    Link g src (run g src pops) v := by
  obtain ⟨hleg, hnd, hcov⟩ := hl
  have hB : Base g src (run g src pops) := base_run h hleg
  have hvv : v ∈ (run g src pops).visited := by
    rw [run_visited]; exact List.mem_reverse.2 (hcov v (reach_verts h hr))
  exact (hB v hvv hr).2

end ArgMapper.DijkstraProofs
