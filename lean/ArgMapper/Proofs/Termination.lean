import ArgMapper.Proofs.ExecEqs
import ArgMapper.Proofs.ReachPlan
import ArgMapper.Proofs.GraphBasics
/-!
# Helper lemmas for C06 (bounded recursion, unreachable panic sites, malformed options)

The common skeleton: a set `Bad` of errors that no *local* step of `reach` produces (`Safe`), so that a
`Bad` error of `reach c rd (n+1) …` can only have been propagated from a nested call
`reach c rd n (target :: reaching) v …` on a function vertex `v` that lies on a chosen path; such a
`v` is a vertex of the graph (consecutive path vertices are joined by edges, whose endpoints are
vertices by `AGraph.WF`; the first vertex is the root) and — when `trackReaching` — is not on the
resolution stack.
-/
namespace ArgMapper.Termination
open ArgMapper WalkEqs ReachEqs ExecEqs

/-! ### the generic propagation argument -/

/-- no local step of `reach` produces an error in `Bad` (except the two sites handled separately:
fuel exhaustion and an unknown function vertex) -/
structure Safe (c : Ctx) (Bad : RErr → Prop) : Prop where
  funcErr : ∀ ε, ¬ Bad (.funcErr ε)
  missingArg : ¬ Bad .missingArg
  setNotAssignable : ¬ Bad (.panic .setNotAssignable)
  elemOnStruct : c.memoCopy = false → ¬ Bad (.panic .elemOnStruct)
  finalValue : ¬ Bad (.panic .finalValue)
  badOracle : ∀ w, ¬ Bad (.badOracle w)
  unsat : ∀ l, ¬ Bad (.unsat l)

def WOK (Bad : RErr → Prop) (w : WalkSt) : Prop := ∀ e, w.err = some e → ¬ Bad e

def VOK (c : Ctx) (Bad : RErr → Prop) (rec : Vtx → CallSt → Except RErr ArgMap × CallSt) (v : Vtx) : Prop :=
  ∀ k, v = .func k →
    (c.funcOf k = none → ¬ Bad (.panic .unknownVertex)) ∧ ∀ s e, (rec v s).1 = .error e → ¬ Bad e

theorem walkStep_ok (c : Ctx) (Bad : RErr → Prop) (hS : Safe c Bad)
    (rec : Vtx → CallSt → Except RErr ArgMap × CallSt) (w : WalkSt) (v : Vtx)
    (hw : WOK Bad w) (hv : VOK c Bad rec v) : WOK Bad (walkStep c rec w v) := by
  cases herr : w.err with
  | some e => rw [walkStep_err c rec herr]; exact hw
  | none =>
    rcases walkStep_data c rec herr v with ⟨st, l, fin, hd⟩ | ⟨k, rfl⟩
    · rw [hd]; exact hw
    · obtain ⟨hunk, hrec⟩ := hv k rfl
      have hstep := walkStep_func c rec herr k
      generalize walkStep c rec w (.func k) = w' at hstep ⊢
      cases hstep with
      | unknown hf => intro e he; cases he; exact hunk hf
      | recErr hf hrs => intro e he; cases he; exact hrec w.s _ (by rw [hrs])
      | cdErr hf hrs hcs =>
        intro e he; cases he
        rcases callDirect_err hcs with rfl | rfl
        · exact hS.missingArg
        · exact hS.setNotAssignable
      | funcErr hf hrs hcs hre => intro e he; cases he; exact hS.funcErr _
      | outErr hf hrs hcs hre hov =>
        intro e he; cases he
        obtain ⟨rfl, hm⟩ := outputValues_err hov
        exact hS.elemOnStruct hm
      | ok hf hrs hcs hre hov => exact hw

theorem walkPaths_ok (c : Ctx) (Bad : RErr → Prop) (hS : Safe c Bad)
    (rec : Vtx → CallSt → Except RErr ArgMap × CallSt) (ps : List (List Vtx))
    (hp : ∀ p ∈ ps, ∀ v ∈ p, VOK c Bad rec v) (am : ArgMap) (s : CallSt) :
    ∀ e, (walkPaths c rec ps am s).1 = .error e → ¬ Bad e := by
  induction ps generalizing am s with
  | nil => intro e h; cases h
  | cons p rest ih =>
    have hw : WOK Bad (walkPath c rec s p) :=
      foldl_inv_mem (WOK Bad) _ p (fun w v hv hw => walkStep_ok c Bad hS rec w v hw (hp p (by simp) v hv)) _
        (fun e he => by cases he)
    have hstep := walkPaths_cons c rec p rest am s
    generalize walkPaths c rec (p :: rest) am s = r at hstep ⊢
    cases hstep with
    | err he => intro e' he'; cases he'; exact hw _ he
    | noFinal _ _ => intro e' he'; cases he'; exact hS.finalValue
    | next _ _ _ => exact ih (fun q hq => hp q (List.mem_cons_of_mem _ hq)) _ _

/-! ### vertices on a valid path -/

theorem mem_verts_of_isPathB (g : AGraph Vtx) (hwf : g.WF) (a : Vtx) (rest : List Vtx)
    (hp : AGraph.isPathB g.reverse (a :: rest) = true) : ∀ v ∈ rest, v ∈ g.verts := by
  induction rest generalizing a with
  | nil => intro v hv; cases hv
  | cons b rest' ih =>
    simp only [AGraph.isPathB, Bool.and_eq_true] at hp
    intro v hv
    rcases List.mem_cons.1 hv with rfl | hv
    · exact (AGraph.hasEdge_verts hwf (AGraph.hasEdge_reverse g _ _ ▸ hp.1)).1
    · exact ih b hp.2 v hv

theorem mem_verts_of_valid (g : AGraph Vtx) (hwf : g.WF) (cur : Vtx) (p : List Vtx)
    (h : validPath g cur p = true) : ∀ v ∈ p, v = .root ∨ v ∈ g.verts := by
  simp only [validPath, Bool.and_eq_true, beq_iff_eq] at h
  obtain ⟨⟨⟨_, hhead⟩, _⟩, hpath⟩ := h
  cases p with
  | nil => intro v hv; cases hv
  | cons a rest =>
    simp only [List.head?_cons, Option.some.injEq] at hhead
    subst hhead
    intro v hv
    rcases List.mem_cons.1 hv with rfl | hv
    · exact Or.inl rfl
    · exact Or.inr (mem_verts_of_isPathB g hwf _ rest hpath v hv)

/-! ### one unfolding of `reach` -/

theorem reach_succ_ok (c : Ctx) (Bad : RErr → Prop) (hS : Safe c Bad) (hwf : c.g.WF) (redefine : Bool)
    (n : Nat) (reaching : List Vtx) (target : Vtx) (s : CallSt)
    (hunk : ∀ k, Vtx.func k ∈ c.g.verts → c.funcOf k = none → ¬ Bad (.panic .unknownVertex))
    (hrec : ∀ k, Vtx.func k ∈ c.g.verts → (c.trackReaching = true → Vtx.func k ∉ target :: reaching) →
      ∀ st e, (reach c redefine n (target :: reaching) (.func k) st).1 = .error e → ¬ Bad e) :
    ∀ e, (reach c redefine (n + 1) reaching target s).1 = .error e → ¬ Bad e := by
  have hstep := reach_succ c redefine n reaching target s
  generalize reach c redefine (n + 1) reaching target s = r at hstep ⊢
  cases hstep with
  | badOracle w orc => intro e he; cases he; exact hS.badOracle w
  | nothingMissing item rest hi hm => intro e he; cases he
  | unsat item rest hi ok hu => intro e he; cases he; exact hS.unsat _
  | walk item rest hi ok hu =>
    -- a nested search runs on a function vertex of a chosen path: a vertex of the graph, off the stack
    apply walkPaths_ok c Bad hS
    intro p hp v hv k hk
    subst hk
    obtain ⟨cur, _, hz⟩ := ok.req_of_path hp
    have hmem : Vtx.func k ∈ c.g.verts :=
      (mem_verts_of_valid c.g hwf cur p (ok.valid (cur, p) hz) _ hv).resolve_left nofun
    exact ⟨hunk k hmem, hrec k hmem fun htr => (plan_unsat_nil_iff htr ..).1 hu _ hz _ hv⟩

/-! ### the measure -/

def measure (g : AGraph Vtx) (reaching : List Vtx) : Nat :=
  ((g.verts.filter Vtx.isFunc).filter (fun v => !decide (v ∈ reaching))).length

theorem measure_lt (g : AGraph Vtx) (reaching : List Vtx) (target : Vtx) (ht : target ∈ g.verts)
    (htf : target.isFunc = true) (hnr : target ∉ reaching) :
    measure g (target :: reaching) < measure g reaching := by
  unfold measure
  refine length_filter_lt_of_imp (fun x _ hx => ?_) (List.mem_filter.2 ⟨ht, htf⟩) (by simp) (by simpa using hnr)
  simp only [List.mem_cons, not_or, Bool.not_eq_eq_eq_not, Bool.not_true, decide_eq_false_iff_not] at hx ⊢
  exact hx.2

def IsFuel : RErr → Prop := fun e => e = .outOfFuel

theorem safe_fuel (c : Ctx) : Safe c IsFuel := by
  constructor <;> intros <;> intro h <;> cases h

theorem reach_fuel (c : Ctx) (htr : c.trackReaching = true) (hwf : c.g.WF) (redefine : Bool)
    (fuel : Nat) (reaching : List Vtx) (target : Vtx) (s : CallSt)
    (ht : target ∈ c.g.verts) (htf : target.isFunc = true) (hnr : target ∉ reaching)
    (hfuel : measure c.g reaching ≤ fuel) :
    (reach c redefine fuel reaching target s).1 ≠ .error .outOfFuel := by
  induction fuel generalizing reaching target s with
  | zero =>
    have := measure_lt c.g reaching target ht htf hnr
    omega
  | succ n ih =>
    intro h
    refine reach_succ_ok c IsFuel (safe_fuel c) hwf redefine n reaching target s ?_ ?_ _ h rfl
    · intro k _ _ h; cases h
    · intro k hk hnr' st e he hb
      cases hb
      have hlt := measure_lt c.g reaching target ht htf hnr
      exact ih (target :: reaching) (.func k) st hk rfl (hnr' htr) (by omega) he

theorem callWith_outOfFuel (c : Ctx) (cgr : CallGraphResult) (target : FuncDesc) (fuel : Nat) (s0 : CallSt)
    (h : (callWith c cgr target fuel s0).1 = .outOfFuel) :
    (reach c false fuel [] cgr.target s0).1 = .error .outOfFuel := by
  have hstep := callWith_cases c cgr target fuel s0
  generalize callWith c cgr target fuel s0 = out at hstep h
  cases hstep with
  | graphUnsat _ => cases h
  | @reachErr _ e s hres => rw [hres]; cases e <;> first | rfl | cases h
  -- after a successful search only the target's own execution remains, and that uses no fuel
  | @directErr _ am s hres e s2 hcs => cases e <;> cases h
  | @executed _ am s hres r unw s2 hcs => dsimp only at h; split at h <;> cases h

/-- executable test for "ran out of fuel" (`Except RErr ArgMap` has no `DecidableEq`) -/
def isOutOfFuel : Except RErr ArgMap → Bool
  | .error .outOfFuel => true
  | _ => false

theorem eq_of_isOutOfFuel {r : Except RErr ArgMap} (h : isOutOfFuel r = true) : r = .error .outOfFuel := by
  unfold isOutOfFuel at h
  split at h
  · rfl
  · cases h

/-! ### panic sites -/

def IsPanic3 : RErr → Prop := fun e =>
  e = .panic .elemOnStruct ∨ e = .panic .unknownVertex ∨ e = .panic .emptyPath

theorem safe_panic3 (c : Ctx) (hmc : c.memoCopy = true) : Safe c IsPanic3 := by
  constructor
  case elemOnStruct => intro h; rw [hmc] at h; cases h
  all_goals intros; intro h; rcases h with h | h | h <;> cases h

theorem reach_panic3 (c : Ctx) (hmc : c.memoCopy = true)
    (hfun : ∀ k, Vtx.func k ∈ c.g.verts → (c.funcOf k).isSome = true) (hwf : c.g.WF)
    (redefine : Bool) (fuel : Nat) (reaching : List Vtx) (target : Vtx) (s : CallSt) :
    ∀ e, (reach c redefine fuel reaching target s).1 = .error e → ¬ IsPanic3 e := by
  induction fuel generalizing reaching target s with
  | zero =>
    intro e he; cases he
    intro h; rcases h with h | h | h <;> cases h
  | succ n ih =>
    apply reach_succ_ok c IsPanic3 (safe_panic3 c hmc) hwf redefine n reaching target s
    · intro k hk hf
      have := hfun k hk
      rw [hf] at this; cases this
    · intro k _ _ st e he
      exact ih _ _ _ e he

/-! ### options -/

theorem setTyped_errs (b : Builder) (v : Option Val) : (setTyped b v).errs = b.errs := by
  unfold setTyped; split <;> rfl

theorem setTypedSub_errs (b : Builder) (v : Option Val) (st : String) : (setTypedSub b v st).errs = b.errs := by
  unfold setTypedSub; split
  · exact setTyped_errs b v
  · split <;> rfl

theorem setNamed_errs (b : Builder) (n : String) (v : Option Val) : (setNamed b n v).errs = b.errs := by
  unfold setNamed; split
  · exact setTyped_errs b v
  · split <;> rfl

theorem setNamedSub_errs (b : Builder) (n : String) (v : Option Val) (st : String) :
    (setNamedSub b n v st).errs = b.errs := by
  unfold setNamedSub; split
  · exact setTypedSub_errs b v st
  · split
    · exact setNamed_errs b n v
    · split <;> rfl

theorem foldl_setTyped_errs (vs : List (Option Val)) (b : Builder) : (vs.foldl setTyped b).errs = b.errs := by
  induction vs generalizing b with
  | nil => rfl
  | cons v vs ih => rw [List.foldl_cons, ih, setTyped_errs]

theorem addConvs_errs_le (fs : List (Option Nat)) (b : Builder) : b.errs ≤ (addConvs b fs).errs := by
  induction fs generalizing b with
  | nil => exact Nat.le_refl _
  | cons f fs ih =>
    cases f with
    | none => simp [addConvs]
    | some x => exact ih { b with convs := b.convs ++ [x] }

theorem addConvs_errs_lt (fs : List (Option Nat)) (h : none ∈ fs) (b : Builder) :
    b.errs < (addConvs b fs).errs := by
  induction fs generalizing b with
  | nil => cases h
  | cons f fs ih =>
    cases f with
    | none => simp [addConvs]
    | some x =>
      have : none ∈ fs := by simpa using h
      exact ih this { b with convs := b.convs ++ [x] }

theorem applyOpt_errs_le (b : Builder) (o : Opt) : b.errs ≤ (applyOpt b o).errs := by
  cases o <;> simp only [applyOpt]
  case named => rw [setNamed_errs]; exact Nat.le_refl _
  case namedSub => rw [setNamedSub_errs]; exact Nat.le_refl _
  case typed => rw [foldl_setTyped_errs]; exact Nat.le_refl _
  case typedSub => rw [setTypedSub_errs]; exact Nat.le_refl _
  case conv => exact addConvs_errs_le _ _
  all_goals exact Nat.le_refl _

theorem foldl_applyOpt_errs_le (opts : List Opt) (b : Builder) : b.errs ≤ (opts.foldl applyOpt b).errs := by
  induction opts generalizing b with
  | nil => exact Nat.le_refl _
  | cons o rest ih => rw [List.foldl_cons]; exact Nat.le_trans (applyOpt_errs_le b o) (ih _)

theorem foldl_applyOpt_errs_pos (opts : List Opt) (fs : List (Option Nat)) (hm : Opt.conv fs ∈ opts)
    (hn : none ∈ fs) (b : Builder) : 0 < (opts.foldl applyOpt b).errs := by
  induction opts generalizing b with
  | nil => cases hm
  | cons o rest ih =>
    rw [List.foldl_cons]
    rcases List.mem_cons.1 hm with rfl | hm
    · have h1 : b.errs < (applyOpt b (.conv fs)).errs := addConvs_errs_lt fs hn b
      have h2 := foldl_applyOpt_errs_le rest (applyOpt b (.conv fs))
      omega
    · exact ih hm _

theorem build_optErr (opts : List Opt) (hnil : Opt.nilOpt ∉ opts) (fs : List (Option Nat))
    (hm : Opt.conv fs ∈ opts) (hn : none ∈ fs) : ∃ b, build opts = .optErr b := by
  unfold build
  rw [buildFrom_of_not_mem opts hnil]
  have := foldl_applyOpt_errs_pos opts fs hm hn Builder.empty
  refine ⟨opts.foldl applyOpt Builder.empty, ?_⟩
  rw [if_neg (by omega)]

end ArgMapper.Termination
