import ArgMapper.Proofs.Complete
import ArgMapper.Proofs.Termination
/-!
# Completeness of conversion chaining on acyclic converter sets (helper lemmas for C05b, dynamic part)

The walk invariants of `Proofs/WalkLadder.lean` for converters with any number of inputs.  A converter vertex
`func k` met on a walked path may have requirements without a value: the nested `reach` plans and walks a
path for each of them.  The facts about the graph are `FactsA`:

* `funcIn`: every parameter vertex of the function object held by a function vertex of the graph (one that
  has an out-edge at all) is a requirement (out-neighbour) of that vertex — this is what "every converter can
  itself be satisfied" gives after pruning;
* `acyc`: a rank strictly decreasing along every edge.  A real root-first path to a requirement of the
  function being resolved only visits vertices of smaller rank than that function, hence none of the
  functions on the resolution stack (whose ranks are larger): the planning loop never records an
  unsatisfied argument, and the nested searches nest at most as deep as there are function vertices.
-/
namespace ArgMapper.CompleteAcyclic
open ArgMapper WalkEqs ReachSound ReachEqs Complete

structure FactsA (c : Ctx) (N : Prop) (Sup : Vtx → Prop) (rank : Vtx → Nat) : Prop extends WalkFacts c N where
  tr : c.trackReaching = true
  toRoot : ∀ x, c.g.hasEdge x .root = true → x.isFunc = true ∨ Sup x
  funcReq : ∀ k y, c.g.hasEdge (.func k) y = true →
    ∃ f, c.funcOf k = some f ∧ (y = .root ∨ ∃ v ∈ f.input.values, y = v.lab.vertex)
  /-- a function vertex that has an out-edge at all has every parameter as a requirement -/
  funcIn : ∀ k f, c.funcOf k = some f → (∃ u, c.g.hasEdge (.func k) u = true) →
    ∀ v ∈ f.input.values, v.lab.vertex ∈ c.g.outs (.func k)
  wf : c.g.WF
  acyc : ∀ x y, c.g.hasEdge x y = true → rank y < rank x

variable {c : Ctx} {N : Prop} {Sup : Vtx → Prop} {rank : Vtx → Nat}

/-! ### ranks along a real path -/

theorem chain_rank (g : AGraph Vtx) (rank : Vtx → Nat) (hacyc : ∀ x y, g.hasEdge x y = true → rank y < rank x)
    (rest : List Vtx) (u : Vtx) (hc : Chain g u rest) :
    ∀ l, (u :: rest).getLast? = some l → ∀ v ∈ u :: rest, rank v ≤ rank l := by
  induction rest generalizing u with
  | nil =>
    intro l hl v hv
    simp only [List.getLast?_singleton, Option.some.injEq] at hl
    simp only [List.mem_singleton] at hv
    subst hl; subst hv
    exact Nat.le_refl _
  | cons a rest' ih =>
    intro l hl v hv
    rw [List.getLast?_cons_cons] at hl
    have h1 := ih a hc.2 l hl
    rcases List.mem_cons.1 hv with rfl | hv
    · have := hacyc _ _ hc.1
      have := h1 a (by simp)
      omega
    · exact h1 v hv

theorem path_rank {g : AGraph Vtx} {rank : Vtx → Nat} (hacyc : ∀ x y, g.hasEdge x y = true → rank y < rank x)
    {cur : Vtx} {p : List Vtx} (h : validPath g cur p = true) : ∀ v ∈ p, rank v ≤ rank cur := by
  obtain ⟨rest, rfl, hch⟩ := validPath_cons h
  exact chain_rank g rank hacyc rest .root hch cur (validPath_last h)

/-! ### one unfolding of `reach` -/

/-- the vertices the search of `func k` may meet on its paths -/
def Below (c : Ctx) (rank : Vtx → Nat) (k : Nat) (v : Vtx) : Prop :=
  (v = .root ∨ v ∈ c.g.verts) ∧ rank v < rank (.func k)

theorem reach_step (gf : FactsA c N Sup rank) (m : Nat) (reaching : List Vtx) (k : Nat)
    (hstack : ∀ x ∈ reaching, rank (.func k) < rank x)
    (hrec : ∀ k' s', Below c rank k (.func k') → CInv c N Sup s' →
      ROut c (CInv c N Sup) (Allowed N) k' (reach c false m (.func k :: reaching) (.func k') s'))
    (s : CallSt) (hs : CInv c N Sup s) :
    ROut c (CInv c N Sup) (Allowed N) k (reach c false (m + 1) reaching (.func k) s) := by
  have hlow : ∀ item, ItemOK c s (.func k) item → ∀ cp ∈ item.missing.zip item.paths, ∀ v ∈ cp.2,
      rank v < rank (.func k) := fun item ok cp hcp v hv =>
    Nat.lt_of_le_of_lt (path_rank gf.acyc (ok.valid cp hcp) v hv)
      (gf.acyc _ _ (AGraph.mem_outs.1 (mem_missing.1 (ok.fst_missing hcp)).1))
  refine Complete.reach_step (Q := Below c rank k) gf.toWalkFacts (Allowed.errOK N) gf.toRoot hs
    ?_ ?_ ?_
  · intro k' s' fin u hq hs' _ he
    obtain ⟨f, hfo, _⟩ := gf.funcReq k' u he
    exact ⟨fun hn => (by rw [hfo] at hn; cases hn),
      fun _ f' hf' => gf.funcIn k' f' hf' ⟨u, he⟩, hrec k' s' hq hs'⟩
  · -- a vertex of a chosen path has a smaller rank than every function on the resolution stack
    intro item st ok hu
    rw [plan_unsat_nil gf.tr _ _ _ _ _ (fun cp hcp v hv hmem => ?_)] at hu
    · cases hu
    · have hlt := hlow item ok cp hcp v hv
      rcases List.mem_cons.1 hmem with h | h
      · rw [h] at hlt; exact Nat.lt_irrefl _ hlt
      · exact Nat.lt_asymm hlt (hstack v h)
  · exact fun item ok cp hcp v hv =>
      ⟨Termination.mem_verts_of_valid c.g gf.wf _ _ (ok.valid cp hcp) v hv, hlow item ok cp hcp v hv⟩

/-! ### every search succeeds: induction on the fuel -/

theorem reach_all (gf : FactsA c N Sup rank) (n : Nat) : ∀ (reaching : List Vtx) (k : Nat) (s : CallSt),
    Vtx.func k ∈ c.g.verts → (∀ x ∈ reaching, rank (.func k) < rank x) →
    Termination.measure c.g reaching ≤ n → CInv c N Sup s →
    ROut c (CInv c N Sup) (Allowed N) k (reach c false n reaching (.func k) s) := by
  induction n with
  | zero =>
    intro reaching k s hk hstack hfuel _
    have hnr : Vtx.func k ∉ reaching := fun h => Nat.lt_irrefl _ (hstack _ h)
    have := Termination.measure_lt c.g reaching (.func k) hk rfl hnr
    omega
  | succ m ih =>
    intro reaching k s hk hstack hfuel hs
    have hnr : Vtx.func k ∉ reaching := fun h => Nat.lt_irrefl _ (hstack _ h)
    have hlt := Termination.measure_lt c.g reaching (.func k) hk rfl hnr
    refine reach_step gf m reaching k hstack ?_ s hs
    intro k' s' hP hs'
    refine ih (.func k :: reaching) k' s' (hP.1.resolve_left (fun h => by cases h)) ?_ (by omega) hs'
    intro x hx
    rcases List.mem_cons.1 hx with rfl | hx
    · exact hP.2
    · exact Nat.lt_trans hP.2 (hstack x hx)

/-! ### `callWith` -/

theorem measure_cons_le (g : AGraph Vtx) (t : Vtx) (reaching : List Vtx) :
    Termination.measure g (t :: reaching) ≤ Termination.measure g reaching := by
  unfold Termination.measure
  refine length_filter_le_of_imp fun x _ hx => ?_
  simp only [List.mem_cons, not_or, Bool.not_eq_eq_eq_not, Bool.not_true, decide_eq_false_iff_not] at hx ⊢
  exact hx.2

theorem callWith_complete (gf : FactsA c N Sup rank) (cgr : CallGraphResult) (target : FuncDesc)
    (htv : cgr.target = .func target.key) (hunsat : cgr.unsat = [])
    (hpar : ∀ v ∈ target.input.values, v.lab.vertex ∈ c.g.outs (.func target.key))
    (m : Nat) (hfuel : Termination.measure c.g [] ≤ m) (s0 : CallSt) (hs : SInv c N Sup s0) :
    (∃ res, (callWith c cgr target (m + 1) s0).1 = .ok res) ∨
    ((∃ ε, (callWith c cgr target (m + 1) s0).1 = .convErr ε) ∧ ¬ N) ∨
    ((∃ ε res, (callWith c cgr target (m + 1) s0).1 = .targetErr ε res) ∧ ¬ N) ∨
    (∃ w, (callWith c cgr target (m + 1) s0).1 = .badOracle w) := by
  refine callWith_allowed (Sup := Sup) (F := fun _ _ => True) gf.hN htv hunsat ?_ hpar
  refine reach_step gf m [] target.key (fun x hx => by cases hx) (fun k' s' hP hs' => ?_) s0
    ⟨hs, trivial⟩
  refine reach_all gf m [.func target.key] k' s' (hP.1.resolve_left (fun h => by cases h)) (fun x hx => ?_)
    (Nat.le_trans (measure_cons_le _ _ _) hfuel) hs'
  rw [List.mem_singleton.1 hx]
  exact hP.2

end ArgMapper.CompleteAcyclic
