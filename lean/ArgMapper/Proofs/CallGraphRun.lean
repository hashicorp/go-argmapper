import ArgMapper.Proofs.CallGraphEq
import ArgMapper.Proofs.GraphBasics
/-!
# The phases of `callGraph` as lists of elementary operations

Every phase of `callGraph` before `prune` is a list of elementary operations (`Op`: add a vertex, add
an edge) computed from the vertex set of the phase's input, applied in order (`run`).  `mem_run_verts`
and `run_hasEdge` then say exactly which vertices and edges a phase's output has: those of its
input and those an operation of the list creates.
-/
namespace ArgMapper
open Generated

/-! ### `hasEdge` under the mutators -/

namespace CGE
section Graph
variable {α : Type} [DecidableEq α]

theorem hasEdge_addEdge (g : AGraph α) (u v : α) (w : Int) (x y : α) :
    (g.addEdge u v w).hasEdge x y = true ↔ (x = u ∧ y = v) ∨ g.hasEdge x y = true := by
  unfold AGraph.hasEdge
  rw [AGraph.weight_addEdge]
  by_cases h : x = u ∧ y = v
  · simp [h]
  · simp [h]

theorem hasEdge_add (g : AGraph α) (v : α) (x y : α) :
    (g.add v).hasEdge x y = g.hasEdge x y := by
  unfold AGraph.hasEdge
  rw [AGraph.weight_add]

end Graph
end CGE

namespace RedefC

/-! ### elementary operations -/

inductive Op
  | add (v : Vtx)
  | edge (u v : Vtx) (w : Int)

def Op.app (g : AGraph Vtx) : Op → AGraph Vtx
  | .add v => g.add v
  | .edge u v w => g.addEdge u v w

def run (L : List Op) (g : AGraph Vtx) : AGraph Vtx := L.foldl Op.app g

theorem run_nil (g : AGraph Vtx) : run [] g = g := rfl

theorem run_append (A B : List Op) (g : AGraph Vtx) : run (A ++ B) g = run B (run A g) := by
  unfold run
  rw [List.foldl_append]

theorem run_cons (o : Op) (L : List Op) (g : AGraph Vtx) : run (o :: L) g = run L (o.app g) := rfl

theorem mem_run_verts (L : List Op) : ∀ (g : AGraph Vtx) (x : Vtx),
    x ∈ (run L g).verts ↔ x ∈ g.verts ∨ Op.add x ∈ L := by
  induction L with
  | nil => intro g x; simp [run_nil]
  | cons o L ih =>
    intro g x
    rw [run_cons, ih]
    cases o with
    | add v =>
      show x ∈ (g.add v).verts ∨ _ ↔ _
      rw [AGraph.mem_add_verts]
      constructor
      · rintro ((h | h) | h)
        · exact Or.inl h
        · exact Or.inr (by rw [h]; exact List.mem_cons_self)
        · exact Or.inr (List.mem_cons_of_mem _ h)
      · rintro (h | h)
        · exact Or.inl (Or.inl h)
        · rcases List.mem_cons.1 h with h | h
          · injection h with h
            exact Or.inl (Or.inr h)
          · exact Or.inr h
    | edge u v w =>
      show x ∈ (g.addEdge u v w).verts ∨ _ ↔ _
      have : (g.addEdge u v w).verts = g.verts := rfl
      rw [this]
      constructor
      · rintro (h | h)
        · exact Or.inl h
        · exact Or.inr (List.mem_cons_of_mem _ h)
      · rintro (h | h)
        · exact Or.inl h
        · rcases List.mem_cons.1 h with h | h
          · cases h
          · exact Or.inr h

theorem run_hasEdge (L : List Op) : ∀ (g : AGraph Vtx) (x y : Vtx),
    (run L g).hasEdge x y = true ↔ g.hasEdge x y = true ∨ ∃ w, Op.edge x y w ∈ L := by
  induction L with
  | nil => intro g x y; simp [run_nil]
  | cons o L ih =>
    intro g x y
    rw [run_cons, ih]
    cases o with
    | add v =>
      show (g.add v).hasEdge x y = true ∨ _ ↔ _
      rw [CGE.hasEdge_add]
      constructor
      · rintro (h | ⟨w, h⟩)
        · exact Or.inl h
        · exact Or.inr ⟨w, List.mem_cons_of_mem _ h⟩
      · rintro (h | ⟨w, h⟩)
        · exact Or.inl h
        · rcases List.mem_cons.1 h with h | h
          · cases h
          · exact Or.inr ⟨w, h⟩
    | edge u v w =>
      show (g.addEdge u v w).hasEdge x y = true ∨ _ ↔ _
      rw [CGE.hasEdge_addEdge]
      constructor
      · rintro ((⟨rfl, rfl⟩ | h) | ⟨w', h⟩)
        · exact Or.inr ⟨w, List.mem_cons_self⟩
        · exact Or.inl h
        · exact Or.inr ⟨w', List.mem_cons_of_mem _ h⟩
      · rintro (h | ⟨w', h⟩)
        · exact Or.inl (Or.inr h)
        · rcases List.mem_cons.1 h with h | h
          · injection h with h1 h2 h3
            exact Or.inl (Or.inl ⟨h1, h2⟩)
          · exact Or.inr ⟨w', h⟩

theorem fold_run {β : Type} (step : CG → β → CG) (opsOf : β → List Op) (I : CG → Prop)
    (hI : ∀ c x, I c → I (step c x))
    (h : ∀ c x, I c → (step c x).g = run (opsOf x) c.g) :
    ∀ (l : List β) (c : CG), I c → (l.foldl step c).g = run (l.flatMap opsOf) c.g := by
  intro l
  induction l with
  | nil => intro c _; rfl
  | cons a l ih =>
    intro c hc
    rw [List.foldl_cons, ih _ (hI c a hc), h c a hc, List.flatMap_cons, run_append]

theorem fold_run' {β : Type} (step : CG → β → CG) (opsOf : β → List Op)
    (h : ∀ c x, (step c x).g = run (opsOf x) c.g) (l : List β) (c : CG) :
    (l.foldl step c).g = run (l.flatMap opsOf) c.g :=
  fold_run step opsOf (fun _ => True) (fun _ _ _ => trivial) (fun c x _ => h c x) l c trivial

/-! ### the phases as runs -/

def valOps (k : Nat) (val : SVal) : List Op :=
  [.add val.lab.vertex, .edge (.func k) val.lab.vertex (reqWeight val.lab)]

def funcInOps (f : FuncDesc) : List Op :=
  .add (.func f.key) :: (if f.input.empty then [.edge (.func f.key) .root weightNormal] else []) ++
    f.input.values.flatMap (valOps f.key)

def outNamedOps (k : Nat) (p : String × SVal) : List Op :=
  [.add (.value p.1 p.2.lab.ty p.2.lab.sub), .edge (.value p.1 p.2.lab.ty p.2.lab.sub) (.func k) weightNormal]

def outTypedOps (k : Nat) (p : Nat × SVal) : List Op :=
  [.add (.out p.2.lab.ty p.2.lab.sub), .edge (.out p.2.lab.ty p.2.lab.sub) (.func k) weightTyped]

def funcOps (f : FuncDesc) (io : Bool) : List Op :=
  funcInOps f ++
    (if io then f.output.named.flatMap (outNamedOps f.key) ++ f.output.typed.flatMap (outTypedOps f.key)
     else [])

theorem funcIn_run (c : CG) (f : FuncDesc) : (funcIn c f).g = run (funcInOps f) c.g := by
  unfold funcIn funcInOps
  rw [fold_run' (reqStep f.key) (valOps f.key) (fun _ _ => rfl), List.cons_append, run_cons, run_append]
  congr 1
  split <;> rfl

theorem funcGraph_run (c : CG) (f : FuncDesc) (io : Bool) :
    (funcGraph c f io).g = run (funcOps f io) c.g := by
  unfold funcOps
  cases io with
  | false => rw [funcGraph_false, funcIn_run, if_neg Bool.false_ne_true, List.append_nil]
  | true =>
    rw [funcGraph_true, fold_run' (outTypedStep f.key) (outTypedOps f.key) (fun _ _ => rfl),
      fold_run' (outNamedStep f.key) (outNamedOps f.key) (fun _ _ => rfl), funcIn_run, if_pos rfl,
      run_append, run_append]

def inputOps (b : Builder) : List Op :=
  (Prune.inputsPairs b).flatMap (fun vx => [Op.add vx.1, Op.edge vx.1 .root weightNormal])

theorem supply_run (c : CG) (b : Builder) :
    ((Prune.inputsPairs b).foldl supply c).g = run (inputOps b) c.g :=
  fold_run' supply _ (fun _ _ => rfl) _ c

theorem add_mem_inputOps {b : Builder} {v : Vtx} (h : v ∈ Prune.inputsList b) : Op.add v ∈ inputOps b := by
  obtain ⟨x, hx⟩ := Prune.mem_inputsList.1 h
  exact List.mem_flatMap.2 ⟨(v, x), hx, List.mem_cons_self⟩

theorem edge_mem_inputOps {b : Builder} {v : Vtx} (h : v ∈ Prune.inputsList b) :
    Op.edge v .root weightNormal ∈ inputOps b := by
  obtain ⟨x, hx⟩ := Prune.mem_inputsList.1 h
  exact List.mem_flatMap.2 ⟨(v, x), hx, List.mem_cons_of_mem _ List.mem_cons_self⟩

def convOps (funcs : Nat → Option FuncDesc) (fid : Nat) : List Op :=
  match funcs fid with
  | some f => funcOps f true
  | none => []

theorem convs_run (funcs : Nat → Option FuncDesc) (convs : List Nat) (c : CG) :
    (convs.foldl (Prune.convStep funcs) c).g = run (convs.flatMap (convOps funcs)) c.g := by
  refine fold_run' (Prune.convStep funcs) (convOps funcs) ?_ convs c
  intro c fid
  unfold Prune.convStep convOps
  cases funcs fid with
  | some f => exact funcGraph_run _ _ _
  | none => rfl

def r3Ops (v : Vtx) : List Op :=
  [.add (.out v.ty ""), .edge v (.out v.ty "") weightTyped, .add (.arg v.ty ""), .edge (.arg v.ty "") v weightTyped] ++
  (if v.sub ≠ "" then [.add (.arg v.ty v.sub), .edge (.arg v.ty v.sub) v weightTyped] else [])

theorem phaseR3_run (c : CG) :
    (phaseR3 c).g = run ((c.g.verts.filter Vtx.isValue).flatMap r3Ops) c.g := by
  unfold phaseR3
  refine fold_run' _ r3Ops ?_ _ _
  intro c v
  unfold r3Ops
  dsimp only
  split <;> rfl

def r4Ops (v : Vtx) : List Op := [.add (.out v.ty v.sub), .edge v (.out v.ty v.sub) weightTyped]

theorem phaseR4_run (c : CG) :
    (phaseR4 c).g = run ((c.g.verts.filter Vtx.isArg).flatMap r4Ops) c.g := by
  unfold phaseR4
  exact fold_run' _ r4Ops (fun _ _ => rfl) _ _

def nestedOps (verts : List Vtx) (p : Vtx → Bool) (q : Vtx → Vtx → Bool) (w : Int) : List Op :=
  (verts.filter p).flatMap (fun v => (verts.filter (q v)).flatMap (fun v2 => [Op.edge v v2 w]))

theorem foldl_edge_verts (v : Vtx) (w : Int) (l : List Vtx) :
    ∀ c : CG, (l.foldl (fun c v2 => c.edge v v2 w) c).g.verts = c.g.verts := by
  induction l with
  | nil => intro c; rfl
  | cons a l ih => intro c; exact ih _

/-- the inner loops see the vertex set of the phase's input, since edges add no vertex -/
theorem nested_run (p : Vtx → Bool) (q : Vtx → Vtx → Bool) (w : Int) (c : CG) :
    (nested p q w c).g = run (nestedOps c.g.verts p q w) c.g := by
  unfold nested nestedOps
  refine fold_run (fun (c' : CG) v => (c'.g.verts.filter (q v)).foldl (fun c v2 => c.edge v v2 w) c')
    (fun v => (c.g.verts.filter (q v)).flatMap (fun v2 => [Op.edge v v2 w]))
    (fun c' => c'.g.verts = c.g.verts) ?_ ?_ _ c rfl
  · intro c' v hc'
    exact (foldl_edge_verts v w _ c').trans hc'
  · intro c' v hc'
    rw [hc']
    exact fold_run' (fun (c : CG) v2 => c.edge v v2 w) (fun v2 => [Op.edge v v2 w]) (fun _ _ => rfl) _ c'

theorem mem_nestedOps {verts : List Vtx} {p : Vtx → Bool} {q : Vtx → Vtx → Bool} {w : Int} {o : Op} :
    o ∈ nestedOps verts p q w ↔
      ∃ v v2, v ∈ verts ∧ p v = true ∧ v2 ∈ verts ∧ q v v2 = true ∧ o = .edge v v2 w := by
  unfold nestedOps
  simp only [List.mem_flatMap, List.mem_filter, List.mem_singleton]
  constructor
  · rintro ⟨v, ⟨hv, hp⟩, v2, ⟨hv2, hq⟩, rfl⟩
    exact ⟨v, v2, hv, hp, hv2, hq, rfl⟩
  · rintro ⟨v, v2, hv, hp, hv2, hq, rfl⟩
    exact ⟨v, ⟨hv, hp⟩, v2, ⟨hv2, hq⟩, rfl⟩

theorem nested_verts (p : Vtx → Bool) (q : Vtx → Vtx → Bool) (w : Int) (c : CG) (x : Vtx) :
    x ∈ (nested p q w c).g.verts ↔ x ∈ c.g.verts := by
  rw [nested_run, mem_run_verts]
  constructor
  · rintro (h | h)
    · exact h
    · obtain ⟨_, _, _, _, _, _, h'⟩ := mem_nestedOps.1 h
      cases h'
  · exact Or.inl

theorem phaseR4_hasEdge {c : CG} {x y : Vtx} (h : c.g.hasEdge x y = true) :
    (phaseR4 c).g.hasEdge x y = true := by
  rw [phaseR4_run, run_hasEdge]
  exact .inl h

theorem nested_hasEdge {c : CG} {x y : Vtx} (h : c.g.hasEdge x y = true) (p : Vtx → Bool)
    (q : Vtx → Vtx → Bool) (w : Int) : (nested p q w c).g.hasEdge x y = true := by
  rw [nested_run, run_hasEdge]
  exact .inl h

def r8Ops (e : TypeEnv) (filter : Option Filter) (sk : Bool) (c : CG) (v : Vtx) : List Op :=
  if (sk && v.isArg && (c.valueOf (.out v.ty v.sub)).isSome) = true ∨
      RedefineInputs.passesF e filter v.ty = false then []
  else [.edge v .root weightNormal]

/-- R8 reads the value store, which it does not change -/
theorem phaseR8_run (e : TypeEnv) (filter : Option Filter) (sk : Bool) (c : CG) :
    (phaseR8 e filter sk c).g =
      run ((c.g.verts.filter (fun v => v.isValue || v.isArg)).flatMap (r8Ops e filter sk c)) c.g := by
  rw [phaseR8_eq]
  refine fold_run (r8Step e filter sk) (r8Ops e filter sk c) (fun c' => c'.store = c.store) ?_ ?_ _ c rfl
  · intro c' v hc'
    unfold r8Step
    split
    · exact hc'
    · exact hc'
  · intro c' v hc'
    unfold r8Step r8Ops CG.valueOf
    rw [hc']
    split <;> rfl

/-! ### edges that are certainly there -/

theorem run_edge {L : List Op} {x y : Vtx} {w : Int} (h : Op.edge x y w ∈ L) (g : AGraph Vtx) :
    (run L g).hasEdge x y = true :=
  (run_hasEdge L g x y).2 (.inr ⟨w, h⟩)

theorem funcGraph_req_edge (c : CG) (f : FuncDesc) (io : Bool) (v : SVal) (hv : v ∈ f.input.values) :
    (funcGraph c f io).g.hasEdge (.func f.key) v.lab.vertex = true := by
  rw [funcGraph_run]
  refine run_edge (w := reqWeight v.lab) ?_ _
  refine List.mem_append_left _ (List.mem_cons_of_mem _ (List.mem_append_right _ ?_))
  exact List.mem_flatMap.2 ⟨v, hv, List.mem_cons_of_mem _ List.mem_cons_self⟩

theorem supply_root_edge (c : CG) (b : Builder) (u : Vtx) (hu : u ∈ Prune.inputsList b) :
    ((Prune.inputsPairs b).foldl supply c).g.hasEdge u .root = true := by
  rw [supply_run]
  exact run_edge (edge_mem_inputOps hu) _

theorem convs_req_edge (funcs : Nat → Option FuncDesc) (convs : List Nat) (c : CG) (fid : Nat)
    (hfid : fid ∈ convs) (f : FuncDesc) (hf : funcs fid = some f) (v : SVal) (hv : v ∈ f.input.values) :
    (convs.foldl (Prune.convStep funcs) c).g.hasEdge (.func f.key) v.lab.vertex = true := by
  rw [convs_run]
  refine run_edge (w := reqWeight v.lab) (List.mem_flatMap.2 ⟨fid, hfid, ?_⟩) _
  unfold convOps
  rw [hf]
  refine List.mem_append_left _ (List.mem_cons_of_mem _ (List.mem_append_right _ ?_))
  exact List.mem_flatMap.2 ⟨v, hv, List.mem_cons_of_mem _ List.mem_cons_self⟩

theorem phaseR4_edge (c : CG) (t : Nat) (s : String) (h : Vtx.arg t s ∈ c.g.verts) :
    (phaseR4 c).g.hasEdge (.arg t s) (.out t s) = true := by
  rw [phaseR4_run]
  refine run_edge (w := weightTyped) (List.mem_flatMap.2 ⟨.arg t s, List.mem_filter.2 ⟨h, rfl⟩, ?_⟩) _
  exact List.mem_cons_of_mem _ List.mem_cons_self

theorem arg_mem_phaseR4 {c : CG} {t : Nat} {s : String} (h : Vtx.arg t s ∈ (phaseR4 c).g.verts) :
    Vtx.arg t s ∈ c.g.verts := by
  rw [phaseR4_run, mem_run_verts] at h
  rcases h with h | h
  · exact h
  · simp only [List.mem_flatMap, List.mem_filter, r4Ops, List.mem_cons, List.not_mem_nil, or_false] at h
    obtain ⟨v, _, h | h⟩ := h <;> cases h

theorem phaseR8_new (e : TypeEnv) (filter : Option Filter) (sk : Bool) (c : CG) (x : Vtx) (hx : x ∈ c.g.verts)
    (hk : (x.isValue || x.isArg) = true)
    (hns : (sk && x.isArg && (c.valueOf (.out x.ty x.sub)).isSome) = false)
    (hp : RedefineInputs.passesF e filter x.ty = true) :
    (phaseR8 e filter sk c).g.hasEdge x .root = true := by
  rw [phaseR8_run]
  refine run_edge (w := weightNormal) (List.mem_flatMap.2 ⟨x, List.mem_filter.2 ⟨hx, hk⟩, ?_⟩) _
  unfold r8Ops
  rw [if_neg (by simp [hns, hp])]
  exact List.mem_cons_self

theorem phaseR8_verts (e : TypeEnv) (filter : Option Filter) (sk : Bool) (c : CG) (x : Vtx) :
    x ∈ (phaseR8 e filter sk c).g.verts ↔ x ∈ c.g.verts := by
  rw [phaseR8_run, mem_run_verts]
  constructor
  · rintro (h | h)
    · exact h
    · simp only [List.mem_flatMap, r8Ops] at h
      obtain ⟨v, _, h⟩ := h
      split at h <;> simp at h
  · exact .inl

end RedefC
end ArgMapper
