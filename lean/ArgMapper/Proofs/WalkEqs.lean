import ArgMapper.Model.Reach
import ArgMapper.Proofs.Maps
/-!
# Equational form of `walkStep` (shared by the C01 and C04 helper files)
-/
namespace ArgMapper.WalkEqs
open ArgMapper

def copyFrom (s : CallSt) (prev : Option Vtx) (v : Vtx) : CallSt :=
  match prev with
  | some (.out t st) => s.set v (s.get (.out t st))
  | _ => s

def argStore (c : Ctx) (s : CallSt) (t : Nat) (v : Vtx) : CallSt :=
  match s.last with
  | some x => if c.env.assignable x.ty t then s.set v (some x) else s
  | none => s

/-- the write a value vertex makes on being entered: the copy from a preceding out vertex, or (repair of
F22, `c.hopCopies`) the value held by a preceding named-value vertex -/
def valCopy (c : Ctx) (s : CallSt) (prev : Option Vtx) (v : Vtx) : CallSt :=
  match prev with
  | some (.out t st) => s.set v (s.get (.out t st))
  | some (.value n t st) =>
    match (if c.hopCopies then s.get (.value n t st) else none) with
    | some x => s.set v (some x)
    | none => s
  | _ => s

theorem get_set (s : CallSt) (v u : Vtx) (x : Option PVal) :
    (s.set v x).get u = if u = v then x else s.get u := by
  unfold CallSt.set CallSt.get
  cases x with
  | some y => exact mapGet_mapSet _ _ _ _
  | none => exact mapGet_filter_ne _ _ _

/-! the writes of a data vertex touch the store only -/

theorem set_frame (s : CallSt) (v : Vtx) (x : Option PVal) : ∃ st, s.set v x = { s with store := st } := by
  unfold CallSt.set; split <;> exact ⟨_, rfl⟩

theorem set_log (s : CallSt) (v : Vtx) (x : Option PVal) : (s.set v x).log = s.log := by
  obtain ⟨st, h⟩ := set_frame s v x; rw [h]

theorem set_memo (s : CallSt) (v : Vtx) (x : Option PVal) : (s.set v x).memo = s.memo := by
  obtain ⟨st, h⟩ := set_frame s v x; rw [h]

theorem copyFrom_frame (s : CallSt) (prev : Option Vtx) (v : Vtx) :
    ∃ st, copyFrom s prev v = { s with store := st } := by
  unfold copyFrom; split
  · exact set_frame ..
  · exact ⟨_, rfl⟩

theorem argStore_frame (c : Ctx) (s : CallSt) (t : Nat) (v : Vtx) :
    ∃ st, argStore c s t v = { s with store := st } := by
  unfold argStore; split
  · split
    · exact set_frame ..
    · exact ⟨_, rfl⟩
  · exact ⟨_, rfl⟩

theorem valCopy_frame (c : Ctx) (s : CallSt) (prev : Option Vtx) (v : Vtx) :
    ∃ st, valCopy c s prev v = { s with store := st } := by
  unfold valCopy; split
  · exact set_frame ..
  · split
    · exact set_frame ..
    · exact ⟨_, rfl⟩
  · exact ⟨_, rfl⟩

theorem valCopy_none (c : Ctx) (s : CallSt) (v : Vtx) : valCopy c s none v = s := rfl

theorem valCopy_out (c : Ctx) (s : CallSt) (t : Nat) (st : String) (v : Vtx) :
    valCopy c s (some (.out t st)) v = copyFrom s (some (.out t st)) v := rfl

theorem valCopy_eq_copyFrom (c : Ctx) (s : CallSt) (prev : Option Vtx) (v : Vtx)
    (h : ∀ n t st, prev ≠ some (.value n t st)) : valCopy c s prev v = copyFrom s prev v := by
  cases prev with
  | none => rfl
  | some p => cases p <;> first | rfl | exact absurd rfl (h _ _ _)

theorem valCopy_noHop (c : Ctx) (s : CallSt) (prev : Option Vtx) (v : Vtx) (hc : c.hopCopies = false) :
    valCopy c s prev v = copyFrom s prev v := by
  cases prev with
  | none => rfl
  | some p => cases p <;> first | rfl | (unfold valCopy copyFrom; simp [hc])

theorem valCopy_hop_some (c : Ctx) (s : CallSt) (n : String) (t : Nat) (st : String) (v : Vtx) {x : PVal}
    (hc : c.hopCopies = true) (hg : s.get (.value n t st) = some x) :
    valCopy c s (some (.value n t st)) v = s.set v (some x) := by
  unfold valCopy; simp [hc, hg]

theorem valCopy_hop_none (c : Ctx) (s : CallSt) (n : String) (t : Nat) (st : String) (v : Vtx)
    (hg : c.hopCopies = false ∨ s.get (.value n t st) = none) :
    valCopy c s (some (.value n t st)) v = s := by
  unfold valCopy
  rcases hg with hg | hg <;> simp [hg]

theorem valCopy_cases (c : Ctx) (s : CallSt) (prev : Option Vtx) (v : Vtx) :
    valCopy c s prev v = copyFrom s prev v ∨
    ∃ n t st x, prev = some (.value n t st) ∧ c.hopCopies = true ∧ s.get (.value n t st) = some x ∧
      valCopy c s prev v = s.set v (some x) := by
  cases prev with
  | none => exact .inl rfl
  | some p =>
    cases p with
    | value n t st =>
      cases hc : c.hopCopies with
      | false => exact .inl (valCopy_noHop c s _ v hc)
      | true =>
        cases hg : s.get (.value n t st) with
        | none => exact .inl (valCopy_hop_none c s n t st v (.inr hg))
        | some x => exact .inr ⟨n, t, st, x, rfl, rfl, hg, valCopy_hop_some c s n t st v hc hg⟩
    | _ => exact .inl rfl

variable (c : Ctx) (rec : Vtx → CallSt → Except RErr ArgMap × CallSt)

theorem walkStep_err {w : WalkSt} {e : RErr} (h : w.err = some e) (v : Vtx) : walkStep c rec w v = w := by
  unfold walkStep; rw [h]

theorem walkStep_root {w : WalkSt} (h : w.err = none) :
    walkStep c rec w .root = { w with prev := some .root } := by
  unfold walkStep; rw [h]

theorem walkStep_value {w : WalkSt} (h : w.err = none) (n : String) (t : Nat) (u : String) :
    walkStep c rec w (.value n t u) =
      { w with
        s := { valCopy c w.s w.prev (.value n t u) with
               last := if c.publishAfterUpdate then (valCopy c w.s w.prev (.value n t u)).get (.value n t u)
                       else w.s.get (.value n t u) },
        prev := some (.value n t u),
        final := ((valCopy c w.s w.prev (.value n t u)).get (.value n t u)).or w.final } := by
  unfold walkStep; rw [h]
  unfold valCopy
  cases hp : w.prev with
  | none => dsimp only [CallSt.get]; cases mapGet w.s.store (Vtx.value n t u) <;> rfl
  | some p =>
    cases p with
    | value n' t' u' =>
      dsimp only
      cases hh : (if c.hopCopies = true then w.s.get (Vtx.value n' t' u') else none) with
      | none => dsimp only [CallSt.get]; cases mapGet w.s.store (Vtx.value n t u) <;> rfl
      | some x =>
        dsimp only [CallSt.get]
        cases mapGet (w.s.set (Vtx.value n t u) (some x)).store (Vtx.value n t u) <;> rfl
    | out t' u' =>
      dsimp only [CallSt.get]
      cases mapGet (w.s.set (Vtx.value n t u) (mapGet w.s.store (Vtx.out t' u'))).store (Vtx.value n t u) <;> rfl
    | _ => dsimp only [CallSt.get]; cases mapGet w.s.store (Vtx.value n t u) <;> rfl

theorem walkStep_arg {w : WalkSt} (h : w.err = none) (t : Nat) (u : String) :
    walkStep c rec w (.arg t u) =
      { w with s := argStore c w.s t (.arg t u), prev := some (.arg t u),
               final := (argStore c w.s t (.arg t u)).get (.arg t u) } := by
  unfold walkStep; rw [h]; rfl

theorem walkStep_out {w : WalkSt} (h : w.err = none) (t : Nat) (u : String) :
    walkStep c rec w (.out t u) =
      { w with s := { copyFrom w.s w.prev (.out t u) with last := (copyFrom w.s w.prev (.out t u)).get (.out t u) },
               prev := some (.out t u) } := by
  unfold walkStep; rw [h]
  unfold copyFrom
  cases hp : w.prev with
  | none => rfl
  | some p => cases p <;> rfl

theorem walkStep_func_funcErr {w : WalkSt} (h : w.err = none) (k : Nat) {f : FuncDesc} (hf : c.funcOf k = some f)
    {am : ArgMap} {s1 : CallSt} (hr : rec (.func k) w.s = (.ok am, s1))
    {r : BehOut} {unw : Bool} {s2 : CallSt} (hc : callDirect c f am s1 = (.ok (r, unw), s2))
    {e : Nat} (he : r.err = some e) :
    walkStep c rec w (.func k) = { w with s := s2, err := some (.funcErr e) } := by
  unfold walkStep; rw [h]; dsimp only; rw [hf]; dsimp only; rw [hr]; dsimp only; rw [hc]; dsimp only
  split
  · rename_i e' he'; rw [he] at he'; cases he'; rfl
  · rename_i he'; rw [he] at he'; cases he'

theorem walkStep_func_outErr {w : WalkSt} (h : w.err = none) (k : Nat) {f : FuncDesc} (hf : c.funcOf k = some f)
    {am : ArgMap} {s1 : CallSt} (hr : rec (.func k) w.s = (.ok am, s1))
    {r : BehOut} {unw : Bool} {s2 : CallSt} (hc : callDirect c f am s1 = (.ok (r, unw), s2))
    (he : r.err = none) {e : RErr} (ho : outputValues c f r unw s2 = .error e) :
    walkStep c rec w (.func k) = { w with s := s2, err := some e } := by
  unfold walkStep; rw [h]; dsimp only; rw [hf]; dsimp only; rw [hr]; dsimp only; rw [hc]; dsimp only
  split
  · rename_i e' he'; rw [he] at he'; cases he'
  · rw [ho]

theorem walkStep_func_ok {w : WalkSt} (h : w.err = none) (k : Nat) {f : FuncDesc} (hf : c.funcOf k = some f)
    {am : ArgMap} {s1 : CallSt} (hr : rec (.func k) w.s = (.ok am, s1))
    {r : BehOut} {unw : Bool} {s2 : CallSt} (hc : callDirect c f am s1 = (.ok (r, unw), s2))
    (he : r.err = none) {s3 : CallSt} (ho : outputValues c f r unw s2 = .ok s3) :
    walkStep c rec w (.func k) = { w with s := s3, prev := some (.func k) } := by
  unfold walkStep; rw [h]; dsimp only; rw [hf]; dsimp only; rw [hr]; dsimp only; rw [hc]; dsimp only
  split
  · rename_i e' he'; rw [he] at he'; cases he'
  · rw [ho]


inductive FuncStep (w : WalkSt) (k : Nat) : WalkSt → Prop
  | unknown (hf : c.funcOf k = none) : FuncStep w k { w with err := some (.panic .unknownVertex) }
  | recErr {f : FuncDesc} (hf : c.funcOf k = some f) {e : RErr} {s1 : CallSt}
      (hr : rec (.func k) w.s = (.error e, s1)) : FuncStep w k { w with s := s1, err := some e }
  | cdErr {f : FuncDesc} (hf : c.funcOf k = some f) {am : ArgMap} {s1 : CallSt}
      (hr : rec (.func k) w.s = (.ok am, s1)) {e : RErr} {s2 : CallSt}
      (hc : callDirect c f am s1 = (.error e, s2)) : FuncStep w k { w with s := s2, err := some e }
  | funcErr {f : FuncDesc} (hf : c.funcOf k = some f) {am : ArgMap} {s1 : CallSt}
      (hr : rec (.func k) w.s = (.ok am, s1)) {r : BehOut} {unw : Bool} {s2 : CallSt}
      (hc : callDirect c f am s1 = (.ok (r, unw), s2)) {e : Nat} (he : r.err = some e) :
      FuncStep w k { w with s := s2, err := some (.funcErr e) }
  | outErr {f : FuncDesc} (hf : c.funcOf k = some f) {am : ArgMap} {s1 : CallSt}
      (hr : rec (.func k) w.s = (.ok am, s1)) {r : BehOut} {unw : Bool} {s2 : CallSt}
      (hc : callDirect c f am s1 = (.ok (r, unw), s2)) (he : r.err = none) {e : RErr}
      (ho : outputValues c f r unw s2 = .error e) : FuncStep w k { w with s := s2, err := some e }
  | ok {f : FuncDesc} (hf : c.funcOf k = some f) {am : ArgMap} {s1 : CallSt}
      (hr : rec (.func k) w.s = (.ok am, s1)) {r : BehOut} {unw : Bool} {s2 : CallSt}
      (hc : callDirect c f am s1 = (.ok (r, unw), s2)) (he : r.err = none) {s3 : CallSt}
      (ho : outputValues c f r unw s2 = .ok s3) : FuncStep w k { w with s := s3, prev := some (.func k) }

theorem walkStep_func {w : WalkSt} (h : w.err = none) (k : Nat) : FuncStep c rec w k (walkStep c rec w (.func k)) := by
  unfold walkStep
  rw [h]
  dsimp only
  cases hf : c.funcOf k with
  | none => exact .unknown hf
  | some f =>
    dsimp only
    rcases hr : rec (Vtx.func k) w.s with ⟨e | am, s1⟩
    · exact .recErr hf hr
    · dsimp only
      rcases hc : callDirect c f am s1 with ⟨e | ⟨r, unw⟩, s2⟩
      · exact .cdErr hf hr hc
      · dsimp only
        cases he : r.err with
        | some ε => exact .funcErr hf hr hc he
        | none =>
          dsimp only
          cases ho : outputValues c f r unw s2 with
          | error e => exact .outErr hf hr hc he ho
          | ok s3 =>
            have hok := FuncStep.ok (c := c) (rec := rec) hf hr hc he ho
            rwa [h] at hok

theorem walkStep_err_mono (w : WalkSt) (v : Vtx) (h : (walkStep c rec w v).err = none) : w.err = none := by
  cases herr : w.err with
  | none => rfl
  | some e => rw [walkStep_err c rec herr, herr] at h; cases h

theorem walkStep_prev (w : WalkSt) (v : Vtx) (h : (walkStep c rec w v).err = none) :
    (walkStep c rec w v).prev = some v := by
  have herr := walkStep_err_mono c rec w v h
  cases v with
  | root => rw [walkStep_root c rec herr]
  | value n t u => rw [walkStep_value c rec herr]
  | arg t u => rw [walkStep_arg c rec herr]
  | out t u => rw [walkStep_out c rec herr]
  | func k =>
    have hstep := walkStep_func c rec herr k
    generalize walkStep c rec w (.func k) = w' at hstep h ⊢
    cases hstep <;> first | rfl | cases h

/-! ### `walkPaths`, one path at a time -/

def walkPath (s : CallSt) (p : List Vtx) : WalkSt :=
  p.foldl (walkStep c rec) { s := s, final := none, prev := none, err := none }

/-- the root, where every usable path starts, only records that it was passed -/
theorem walkPath_root (s : CallSt) (tl : List Vtx) :
    walkPath c rec s (.root :: tl) =
      tl.foldl (walkStep c rec) { s := s, final := none, prev := some .root, err := none } := by
  rw [walkPath, List.foldl_cons, walkStep_root c rec rfl]

inductive PathsStep (p : List Vtx) (rest : List (List Vtx)) (am : ArgMap) (s : CallSt) :
    Except RErr ArgMap × CallSt → Prop
  | err {e : RErr} (he : (walkPath c rec s p).err = some e) :
      PathsStep p rest am s (.error e, (walkPath c rec s p).s)
  | noFinal (he : (walkPath c rec s p).err = none)
      (hn : (walkPath c rec s p).final = none ∨ p.getLast? = none) :
      PathsStep p rest am s (.error (.panic .finalValue), (walkPath c rec s p).s)
  | next (he : (walkPath c rec s p).err = none) {x : PVal} {lastV : Vtx}
      (hf : (walkPath c rec s p).final = some x) (hl : p.getLast? = some lastV) :
      PathsStep p rest am s (walkPaths c rec rest (mapSet am lastV x) (walkPath c rec s p).s)

theorem walkPaths_cons (p : List Vtx) (rest : List (List Vtx)) (am : ArgMap) (s : CallSt) :
    PathsStep c rec p rest am s (walkPaths c rec (p :: rest) am s) := by
  unfold walkPaths
  change PathsStep c rec p rest am s (match (walkPath c rec s p).err with
    | some e => (.error e, (walkPath c rec s p).s)
    | none => match (walkPath c rec s p).final, p.getLast? with
      | some x, some lastV => walkPaths c rec rest (mapSet am lastV x) (walkPath c rec s p).s
      | _, _ => (.error (.panic .finalValue), (walkPath c rec s p).s))
  cases he : (walkPath c rec s p).err with
  | some e => exact .err he
  | none =>
    dsimp only
    cases hf : (walkPath c rec s p).final with
    | none => exact .noFinal he (.inl hf)
    | some x =>
      cases hl : p.getLast? with
      | none => exact .noFinal he (.inr hl)
      | some lastV => exact .next he hf hl

end ArgMapper.WalkEqs
