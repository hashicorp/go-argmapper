import ArgMapper.Proofs.AffinityCG
import ArgMapper.Props.C07a
/-!
# Helper lemmas for C07 (call-graph level), part 2

The searched graph `G g cur` edge by edge, and the part of the premises `famB`, `famB'` of
`Props/C07b.lean` the two shapes of family B have in common, as vertices tied to the root.
-/
namespace ArgMapper.AffinityCG
open ArgMapper AGraph Dijkstra DijkstraProofs AffinityProofs Generated

/-! ### the searched graph, edge by edge -/

section G
variable (g : AGraph Vtx) (hwf : g.WF) (n : String) (S : Nat) (sc : String)
include hwf

theorem G_edge {x y : Vtx} {w : Int}
    (h : (G g (.value n S sc)).weight x y = some w) : g.hasEdge y x = true := by
  rw [G_weight g hwf] at h
  split at h
  · rename_i hc; exact hc.2
  · exact hasEdge_iff_weight.2 ⟨w, h⟩

theorem G_weight_plain {x y : Vtx} (hx : ¬ (x.isValue = true ∧ x.name = n)) :
    (G g (.value n S sc)).weight x y = g.weight y x := by
  rw [G_weight g hwf, if_neg]
  exact fun hc => hx hc.1

theorem G_weight_named {x y : Vtx} (hv : x.isValue = true) (hn : x.name = n)
    (he : g.hasEdge y x = true) :
    (G g (.value n S sc)).weight x y = some weightMatchingName := by
  rw [G_weight g hwf, if_pos ⟨⟨hv, hn⟩, he⟩]

theorem only_plain {p x : Vtx} {w : Int} (ho : g.outsW x = [(p, w)])
    (hp : ¬ (p.isValue = true ∧ p.name = n)) : Only (G g (.value n S sc)) p x w :=
  have ⟨hw, honly⟩ := outsW_single hwf ho
  ⟨(G_weight_plain g hwf n S sc hp).trans hw, fun y _ h => honly y (G_edge g hwf n S sc h)⟩

theorem only_named {p x : Vtx} {w : Int} (ho : g.outsW x = [(p, w)])
    (hv : p.isValue = true) (hn : p.name = n) : Only (G g (.value n S sc)) p x weightMatchingName :=
  have ⟨hw, honly⟩ := outsW_single hwf ho
  ⟨G_weight_named g hwf n S sc hv hn (hasEdge_iff_weight.2 ⟨w, hw⟩),
    fun y _ h => honly y (G_edge g hwf n S sc h)⟩

end G

theorem not_value_of_isArg {a : Vtx} (h : a.isArg = true) : a.isValue = false := by
  cases a <;> simp [Vtx.isArg, Vtx.isValue] at h ⊢

theorem not_value_of_isOut {a : Vtx} (h : a.isOut = true) : a.isValue = false := by
  cases a <;> simp [Vtx.isOut, Vtx.isValue] at h ⊢

theorem small_consts : C07.Small weightNormal ∧ C07.Small weightTyped ∧ C07.Small weightMatchingName := by
  unfold C07.Small; decide

/-! ### family B: the part common to both shapes -/

theorem branch_common (g : AGraph Vtx) (hwf : g.WF) (n : String) (S : Nat) (sc : String)
    (u a : Vtx) (k1 k2 : Nat)
    (hu : u.isValue = true) (hun : u.name = n) (ha : a.isArg = true)
    (hou : g.outsW u = [(Vtx.root, weightNormal)])
    (hoa : g.outsW a = [(u, weightTyped)])
    (hof1 : g.outsW (.func k1) = [(a, weightTyped)])
    (hof2 : g.outsW (.func k2) = [(u, weightNormal)]) :
    Tied (G g (.value n S sc)) .root u (0 + weightNormal) [.root] ∧
    Tied (G g (.value n S sc)) .root (.func k1) (0 + weightNormal + weightMatchingName + weightTyped)
      [a, u, .root] ∧
    Tied (G g (.value n S sc)) .root (.func k2) (0 + weightNormal + weightMatchingName) [u, .root] := by
  obtain ⟨sN, sT, sM⟩ := small_consts
  have haV := not_value_of_isArg ha
  have hur : u ≠ .root := fun e => by rw [e] at hu; cases hu
  have har : a ≠ .root := fun e => by rw [e] at ha; cases ha
  have hau : a ≠ u := fun e => by rw [e, hu] at haV; cases haV
  have tU := Tied.link .root (only_plain g hwf n S sc hou (fun h => by cases h.1)) hur hur sN
    (by simp)
  have tA := Tied.link tU (only_named g hwf n S sc hoa hu hun) har hau sM (by simp)
  exact ⟨tU,
    .link tA (only_plain g hwf n S sc hof1 (fun h => by rw [haV] at h; cases h.1)) (fun e => by cases e)
      (fun e => by rw [← e] at ha; cases ha) sT (by simp),
    .link tU (only_named g hwf n S sc hof2 hu hun) (fun e => by cases e)
      (fun e => by rw [← e] at hu; cases hu) sM (by simp)⟩

end ArgMapper.AffinityCG
