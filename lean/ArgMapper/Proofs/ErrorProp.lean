import ArgMapper.Proofs.ExecEqs
import ArgMapper.Proofs.ReachEqs
/-!
# Error propagation through `reach` (helper lemmas for C04)

`Eff c s r s'` describes what a sub-computation that started in state `s`, returned `r` and ended in
state `s'` did to the execution log and to the memo table: the log only grows, by executions of bodies of
`c`; a successful computation appended no failing execution and introduced no failing memo cell; a
computation that failed with `funcErr ε` either appended the failing execution last (and nothing failing
before it), or replayed a failing memo cell that was there from the start; any other failure appended no
failing execution.
-/
namespace ArgMapper.ErrorProp
open ArgMapper WalkEqs ReachEqs ExecEqs

def MemoErr (m : List (Nat × Memo)) (ε : Nat) : Prop := ∃ p ∈ m, p.2.res.err = some ε
def NoErr (l : List ExecEv) : Prop := ∀ ev ∈ l, ev.res.err = none

def LastErr (app : List ExecEv) (ε : Nat) : Prop :=
  ∃ init ev, app = init ++ [ev] ∧ NoErr init ∧ ev.res.err = some ε

def Failed (m : List (Nat × Memo)) (app : List ExecEv) (ε : Nat) : Prop :=
  LastErr app ε ∨ (NoErr app ∧ MemoErr m ε)

def ErrPost (m : List (Nat × Memo)) (app : List ExecEv) : RErr → Prop
  | .funcErr ε => Failed m app ε
  | _ => NoErr app

def Post (s s' : CallSt) (app : List ExecEv) : Option RErr → Prop
  | none => NoErr app ∧ ∀ ε, MemoErr s'.memo ε → MemoErr s.memo ε
  | some e => ErrPost s.memo app e

def FromBeh (c : Ctx) (app : List ExecEv) : Prop := ∀ ev ∈ app, ∃ n args, ev.res = c.beh ev.fid n args

def errOf {α : Type} : Except RErr α → Option RErr
  | .ok _ => none
  | .error e => some e

def Eff (c : Ctx) (s : CallSt) (r : Option RErr) (s' : CallSt) : Prop :=
  ∃ app, s'.log = s.log ++ app ∧ FromBeh c app ∧ Post s s' app r

variable {c : Ctx}

theorem NoErr_nil : NoErr [] := by intro ev h; cases h

theorem NoErr_append {a b : List ExecEv} (ha : NoErr a) (hb : NoErr b) : NoErr (a ++ b) := by
  intro ev h
  rcases List.mem_append.1 h with h | h
  · exact ha ev h
  · exact hb ev h

theorem FromBeh_nil : FromBeh c [] := by intro ev h; cases h

/-- only the log and the memo table matter -/
theorem Eff.same {s s' : CallSt} (hl : s'.log = s.log) (hm : s'.memo = s.memo) : Eff c s none s' :=
  ⟨[], by simp [hl], FromBeh_nil, NoErr_nil, fun _ h => hm ▸ h⟩

theorem Eff.refl (s : CallSt) : Eff c s none s := Eff.same rfl rfl

theorem Eff.trans {s s1 s2 : CallSt} {r : Option RErr}
    (h1 : Eff c s none s1) (h2 : Eff c s1 r s2) : Eff c s r s2 := by
  obtain ⟨a1, hl1, hb1, hn1, hm1⟩ := h1
  obtain ⟨a2, hl2, hb2, hp2⟩ := h2
  refine ⟨a1 ++ a2, by rw [hl2, hl1, List.append_assoc], List.forall_mem_append.2 ⟨hb1, hb2⟩, ?_⟩
  cases r with
  | none => exact ⟨NoErr_append hn1 hp2.1, fun ε h => hm1 ε (hp2.2 ε h)⟩
  | some e =>
    cases e with
    | funcErr ε =>
      rcases hp2 with ⟨init, ev, hb, hi, he⟩ | ⟨hb, hme⟩
      · exact Or.inl ⟨a1 ++ init, ev, by rw [hb, List.append_assoc], NoErr_append hn1 hi, he⟩
      · exact Or.inr ⟨NoErr_append hn1 hb, hm1 ε hme⟩
    | _ => exact NoErr_append hn1 hp2

theorem Eff.error_of_ok {s s' : CallSt} {e : RErr}
    (h : Eff c s none s') (he : ∀ ε, e ≠ .funcErr ε) : Eff c s (some e) s' := by
  obtain ⟨app, hl, hb, hn, _⟩ := h
  exact ⟨app, hl, hb, by cases e <;> first | exact hn | exact absurd rfl (he _)⟩

/-! ### `callDirect`, `outputValues` -/

def directErr : Except RErr (BehOut × Bool) → Option RErr
  | .error e => some e
  | .ok (r, _) => r.err.map .funcErr

theorem callDirect_eff {f : FuncDesc} {am : ArgMap} {s s' : CallSt} {r : Except RErr (BehOut × Bool)}
    (h : callDirect c f am s = (r, s')) : Eff c s (directErr r) s' := by
  have hstep := callDirect_cases c f am s
  rw [h] at hstep
  cases hstep with
  | @hit m hm =>
    show Eff c s (m.res.err.map .funcErr) s
    cases he : m.res.err with
    | none => exact Eff.refl s
    | some ε => exact ⟨[], by simp, FromBeh_nil, .inr ⟨NoErr_nil, _, mem_of_hit hm, he⟩⟩
  | argErr hm hg =>
    refine Eff.error_of_ok (Eff.refl s) ?_
    rcases gatherArgs_err hg with rfl | rfl <;> exact fun _ => nofun
  | @exec hm args hg =>
    have hb : FromBeh c [execEv c f s args] := fun ev hev => by
      cases List.mem_singleton.1 hev; exact ⟨_, _, rfl⟩
    refine ⟨[execEv c f s args], rfl, hb, ?_⟩
    show Post s _ _ ((execEv c f s args).res.err.map .funcErr)
    cases he : (execEv c f s args).res.err with
    | some ε => exact .inl ⟨[], _, rfl, NoErr_nil, he⟩
    | none =>
      refine ⟨fun ev hev => by rw [List.mem_singleton.1 hev]; exact he, ?_⟩
      rintro ε ⟨p, hp, hpe⟩
      dsimp only at hp
      split at hp
      · -- the new cell holds a result without an error
        rcases mem_mapSet hp with hp | rfl
        · exact ⟨p, hp, hpe⟩
        · rw [he] at hpe; cases hpe
      · exact ⟨p, hp, hpe⟩

theorem callDirect_ok_eff {f : FuncDesc} {am : ArgMap} {s s' : CallSt} {r : BehOut} {u : Bool}
    (h : callDirect c f am s = (.ok (r, u), s')) {o : Option Nat} (he : r.err = o) :
    Eff c s (o.map .funcErr) s' :=
  he ▸ callDirect_eff h

theorem outputValues_eff {f : FuncDesc} {r : BehOut} {u : Bool} {s s' : CallSt}
    (h : outputValues c f r u s = .ok s') : Eff c s none s' := by
  obtain ⟨st, memo, rfl, hm⟩ := outputValues_ok h
  refine ⟨[], by simp, FromBeh_nil, NoErr_nil, ?_⟩
  rintro ε ⟨p, hp, hpe⟩
  rcases hm with rfl | rfl
  · exact ⟨p, hp, hpe⟩
  · -- marking a cell as unwrapped leaves its result alone
    obtain ⟨q, hq, rfl⟩ := List.mem_map.1 hp
    refine ⟨q, hq, ?_⟩
    split at hpe <;> exact hpe

/-! ### walking -/

def RecOK (c : Ctx) (rec : Vtx → CallSt → Except RErr ArgMap × CallSt) : Prop :=
  ∀ v s, Eff c s (errOf (rec v s).1) (rec v s).2

theorem walkStep_eff (rec : Vtx → CallSt → Except RErr ArgMap × CallSt) (hrec : RecOK c rec)
    (s0 : CallSt) (w : WalkSt) (v : Vtx) (h : Eff c s0 w.err w.s) :
    Eff c s0 (walkStep c rec w v).err (walkStep c rec w v).s := by
  cases herr : w.err with
  | some e => rw [walkStep_err c rec herr, herr]; rw [herr] at h; exact h
  | none =>
    rw [herr] at h
    rcases walkStep_data c rec herr v with ⟨st, l, fin, hd⟩ | ⟨k, rfl⟩
    · rw [hd]; exact herr ▸ h
    · have hr := hrec (Vtx.func k) w.s
      have hstep := walkStep_func c rec herr k
      generalize walkStep c rec w (.func k) = w' at hstep ⊢
      cases hstep with
      | unknown hf => exact Eff.error_of_ok h (fun _ => nofun)
      | recErr hf hrs => rw [hrs] at hr; exact h.trans hr
      | cdErr hf hrs hcs => rw [hrs] at hr; exact (h.trans hr).trans (callDirect_eff hcs)
      | funcErr hf hrs hcs he => rw [hrs] at hr; exact (h.trans hr).trans (callDirect_ok_eff hcs he)
      | outErr hf hrs hcs he hov =>
        rw [hrs] at hr
        refine Eff.error_of_ok ((h.trans hr).trans (callDirect_ok_eff hcs he)) ?_
        rw [(outputValues_err hov).1]; exact fun _ => nofun
      | ok hf hrs hcs he hov =>
        rw [hrs] at hr
        exact herr ▸ ((h.trans hr).trans (callDirect_ok_eff hcs he)).trans (outputValues_eff hov)

theorem walkPaths_eff (rec : Vtx → CallSt → Except RErr ArgMap × CallSt) (hrec : RecOK c rec)
    (ps : List (List Vtx)) (am : ArgMap) (s : CallSt) :
    Eff c s (errOf (walkPaths c rec ps am s).1) (walkPaths c rec ps am s).2 := by
  induction ps generalizing am s with
  | nil => exact Eff.refl s
  | cons p rest ih =>
    have hw : Eff c s (walkPath c rec s p).err (walkPath c rec s p).s :=
      foldl_inv (P := fun w => Eff c s w.err w.s) _ (fun w v hw => walkStep_eff rec hrec s w v hw) p _ (Eff.refl s)
    have hstep := walkPaths_cons c rec p rest am s
    generalize walkPaths c rec (p :: rest) am s = r at hstep ⊢
    cases hstep with
    | err he => rw [he] at hw; exact hw
    | noFinal he _ => rw [he] at hw; exact Eff.error_of_ok hw (fun _ => nofun)
    | next he _ _ => rw [he] at hw; exact hw.trans (ih _ _)

theorem reach_eff (c : Ctx) (redefine : Bool) (fuel : Nat) (reaching : List Vtx) (target : Vtx) (s : CallSt) :
    Eff c s (errOf (reach c redefine fuel reaching target s).1) (reach c redefine fuel reaching target s).2 := by
  induction fuel generalizing reaching target s with
  | zero => exact Eff.error_of_ok (Eff.refl s) (fun _ => nofun)
  | succ n ih =>
    obtain ⟨ins, h1⟩ := afterSkip_frame c s target
    have hskip : ∀ orc, Eff c s none { afterSkip c s target with orc := orc } := fun orc => by
      rw [h1]; exact Eff.same rfl rfl
    have hplan : ∀ item rest,
        Eff c s none (plan c redefine reaching target item { afterSkip c s target with orc := rest }).s :=
      fun item rest => by
        obtain ⟨st, ins', h2⟩ := plan_frame c redefine reaching target item { afterSkip c s target with orc := rest }
        rw [h2, h1]; exact Eff.same rfl rfl
    have hstep := reach_succ c redefine n reaching target s
    generalize reach c redefine (n + 1) reaching target s = r at hstep ⊢
    cases hstep with
    | badOracle w orc => exact Eff.error_of_ok (hskip orc) (fun _ => nofun)
    | nothingMissing item rest hi hm => exact hskip rest
    | unsat item rest hi ok hu => exact Eff.error_of_ok (hplan item rest) (fun _ => nofun)
    | walk item rest hi ok hu => exact (hplan item rest).trans (walkPaths_eff _ (fun v st => ih _ v st) _ _ _)

/-! ### `callWith` -/

def OutPost (m0 : List (Nat × Memo)) (app : List ExecEv) : Outcome → Prop
  | .ok r => r.err = none ∧ NoErr app
  | .convErr ε => Failed m0 app ε
  | .targetErr ε r => r.err = some ε ∧ Failed m0 app ε
  | _ => NoErr app

theorem callWith_eff (c : Ctx) (cgr : CallGraphResult) (target : FuncDesc) (fuel : Nat) (s0 : CallSt) :
    ∃ app, (callWith c cgr target fuel s0).2.log = s0.log ++ app ∧ FromBeh c app ∧
      OutPost s0.memo app (callWith c cgr target fuel s0).1 := by
  have hr := reach_eff c false fuel [] cgr.target s0
  have hstep := callWith_cases c cgr target fuel s0
  generalize callWith c cgr target fuel s0 = out at hstep ⊢
  cases hstep with
  | graphUnsat _ => exact ⟨[], by simp, FromBeh_nil, NoErr_nil⟩
  | @reachErr _ e s hres =>
    rw [hres] at hr
    obtain ⟨app, hl, hb, hp⟩ := hr
    refine ⟨app, hl, hb, ?_⟩
    cases e <;> exact hp
  | directErr _ hres hcs =>
    -- the target's own execution: one more step of the same kind
    rw [hres] at hr
    obtain ⟨app, hl, hb, hp⟩ := hr.trans (callDirect_eff hcs)
    rcases callDirect_err hcs with rfl | rfl <;> exact ⟨app, hl, hb, hp⟩
  | @executed _ am s hres r unw s2 hcs =>
    rw [hres] at hr
    cases he : r.err with
    | some ε =>
      obtain ⟨app, hl, hb, hp⟩ := hr.trans (callDirect_ok_eff hcs he)
      exact ⟨app, hl, hb, he, hp⟩
    | none =>
      obtain ⟨app, hl, hb, hp⟩ := hr.trans (callDirect_ok_eff hcs he)
      exact ⟨app, hl, hb, he, hp.1⟩

theorem LastErr.unique {app : List ExecEv} {ε : Nat} (h : LastErr app ε) {ev : ExecEv} {ε' : Nat}
    (hev : ev ∈ app) (he : ev.res.err = some ε') : app.getLast? = some ev ∧ ε' = ε := by
  obtain ⟨init, ev0, rfl, hn, h0⟩ := h
  rcases List.mem_append.1 hev with h | h
  · rw [hn ev h] at he; cases he
  · simp only [List.mem_singleton] at h
    subst h
    rw [h0] at he; cases he
    simp

theorem NoErr.absurd {app : List ExecEv} (h : NoErr app) {ev : ExecEv} {ε : Nat}
    (hev : ev ∈ app) (he : ev.res.err = some ε) : False := by
  rw [h ev hev] at he; cases he

end ArgMapper.ErrorProp
