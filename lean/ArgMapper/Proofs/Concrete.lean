import ArgMapper.Model.Reach
/-!
# Evaluating a concrete scenario

The counterexample files prove finite facts about one concrete call by kernel evaluation.  Building the
call graph is by far the longest part of such an evaluation, and a file states several facts about the same
call; so a scenario evaluates `callGraph` once, to a literal, and states everything else about the literal.
`CallGraphResult` has no decidable equality: the literal is reached field by field.
-/
namespace ArgMapper

theorem CallGraphResult.eq_mk {r : CallGraphResult} {V E S t q i u}
    (h : r.cg.g.verts = V ∧ r.cg.g.edges = E ∧ r.cg.store = S ∧ r.target = t ∧ r.reqs = q ∧ r.inputs = i ∧
      r.unsat = u) :
    r = ⟨⟨⟨V, E⟩, S⟩, t, q, i, u⟩ := by
  obtain ⟨rfl, rfl, rfl, rfl, rfl, rfl, rfl⟩ := h
  rfl

/-- Written with a hypothesis because `rfl` between `{ c with hopCopies := true }` and a concrete `c` compares the
graph fields and, doing so, evaluates the call graph. -/
theorem Ctx.with_hopCopies (c : Ctx) {hop : Bool} (h : c.hopCopies = hop) : { c with hopCopies := hop } = c := by
  cases c; cases h; rfl

end ArgMapper
