import ArgMapper.Model.Sig
/-!
# Kernel-evaluable mirrors of the string functions used by `parseTag`

`String.splitOn` is defined by well-founded recursion and does not reduce by `decide`/`rfl`.
`splitOnC` is a fuel-driven structural copy which is *provably equal* to `String.splitOn` for all
arguments (when the fuel runs out it falls back to the original), so closed instances can be
evaluated by `decide +kernel` after rewriting with `splitOn_eq_C`.
-/
namespace ArgMapper

open String in
def splitOnAuxF : Nat → String → String → Pos.Raw → Pos.Raw → Pos.Raw → List String → Option (List String)
  | 0, _, _, _, _, _, _ => none
  | n + 1, s, sep, b, i, j, r =>
    if i.atEnd s then
      some ((b.extract s i :: r).reverse)
    else
      if i.get s == j.get sep then
        if (j.next sep).atEnd sep then
          splitOnAuxF n s sep (i.next s) (i.next s) 0 (b.extract s ((i.next s).unoffsetBy (j.next sep)) :: r)
        else
          splitOnAuxF n s sep b (i.next s) (j.next sep) r
      else
        splitOnAuxF n s sep b ((i.unoffsetBy j).next s) 0 r

theorem splitOnAuxF_sound : ∀ (n : Nat) (s sep : String) (b i j : String.Pos.Raw) (r res : List String),
    splitOnAuxF n s sep b i j r = some res → String.splitOnAux s sep b i j r = res := by
  intro n
  induction n with
  | zero => intro s sep b i j r res h; cases h
  | succ n ih =>
    intro s sep b i j r res h
    rw [String.splitOnAux]
    rw [splitOnAuxF] at h
    by_cases h1 : i.atEnd s = true
    · rw [if_pos h1] at h ⊢; exact Option.some.inj h
    · rw [if_neg h1] at h ⊢
      by_cases h2 : (i.get s == j.get sep) = true
      · rw [if_pos h2] at h ⊢
        by_cases h3 : (j.next sep).atEnd sep = true
        · rw [if_pos h3] at h ⊢; exact ih _ _ _ _ _ _ _ h
        · rw [if_neg h3] at h ⊢; exact ih _ _ _ _ _ _ _ h
      · rw [if_neg h2] at h ⊢; exact ih _ _ _ _ _ _ _ h

def splitOnC (s sep : String) : List String :=
  if sep == "" then [s]
  else (splitOnAuxF ((s.utf8ByteSize + 2) * (sep.utf8ByteSize + 2)) s sep 0 0 0 []).getD
    (String.splitOnAux s sep 0 0 0 [])

theorem splitOn_eq_C (s sep : String) : s.splitOn sep = splitOnC s sep := by
  unfold String.splitOn splitOnC
  split
  · rfl
  · cases h : splitOnAuxF ((s.utf8ByteSize + 2) * (sep.utf8ByteSize + 2)) s sep 0 0 0 [] with
    | none => rfl
    | some res => exact splitOnAuxF_sound _ _ _ _ _ _ _ _ h

def splitOptC (v : String) : String × String :=
  match splitOnC v "=" with
  | [] => (v, "")
  | [k] => (k, "")
  | k :: rest => (k, "=".intercalate rest)

theorem splitOpt_eq_C : splitOpt = splitOptC := by
  funext v; unfold splitOpt splitOptC; rw [splitOn_eq_C]; rfl

def parseTagC (tag : String) : TagInfo :=
  if tag = "" then { nameOverride := "", typeOnly := false, subtype := "" }
  else
    let parts := splitOnC tag ","
    let opts := (parts.drop 1).map splitOptC
    { nameOverride := parts.headD "",
      typeOnly := opts.any (fun o => o.1 == "typeOnly"),
      subtype := ((opts.reverse.find? (fun o => o.1 == "subtype")).map (·.2)).getD "" }

theorem parseTag_eq_C : parseTag = parseTagC := by
  funext tag; unfold parseTag parseTagC; rw [splitOn_eq_C, splitOpt_eq_C]

def fieldLabelC (f : Field) : Label :=
  let ti := parseTagC f.tag
  let nm := lower (if ti.nameOverride ≠ "" then ti.nameOverride else f.name)
  { name := if ti.typeOnly then "" else nm, ty := f.ty, sub := ti.subtype }

theorem fieldLabel_eq_C : fieldLabel = fieldLabelC := by
  funext f; unfold fieldLabel fieldLabelC; rw [parseTag_eq_C]

theorem parseTag_typeOnly : parseTag ",typeOnly" = ⟨"", true, ""⟩ := by
  rw [parseTag_eq_C]; decide +kernel

end ArgMapper
