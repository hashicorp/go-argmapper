import ArgMapper.Proofs.WalkPanicStatic
import ArgMapper.Proofs.CompleteAcyclicStatic
/-!
# Completeness with the full label language (helper lemmas for C05c)

Clause (b), acyclic converter sets, is `CompleteAcyclic.callWith_complete` on the `Call` graph of a scenario in
the full label language (`CompleteAcyclic.facts_std`, `acyclic_core`).

`finish'` is the other route to such a statement, outcome by outcome: the outcome of `callWith` is one of
eight; `WalkPanic.core_items` excludes `panic finalValue`, `panic setNotAssignable` and `missingArg`; the
rest is excluded here, each by a separate argument:

* `callWith_no_fuel`: fuel that covers the function vertices is never exhausted (C06);
* `Termination.reach_panic3`: the three remaining panic sites, once every function vertex of the pruned graph
  is known to have a function object (`Complete.CtxStd.funcOf_isSome`);
* an unsatisfied argument is left to the caller — `single_reach_top` (`CompleteLegalSingle.lean`): for
  converters with at most one input the requirement of a converter met on a path directly precedes it and
  holds a value, so its nested search returns at once.
-/
set_option linter.unusedVariables false
namespace ArgMapper.CompleteLegal
open ArgMapper WalkEqs ReachSound ReachEqs Complete

def IsUnsat (e : RErr) : Prop := ∃ l, e = .unsat l

/-! ### `callWith`: where its outcomes come from -/

theorem callWith_unsat (c : Ctx) (cgr : CallGraphResult) (target : FuncDesc) (fuel : Nat) (s0 : CallSt)
    (a : List Label) (fg : Bool) (h : (callWith c cgr target fuel s0).1 = .unsat a fg) :
    cgr.unsat ≠ [] ∨ (reach c false fuel [] cgr.target s0).1 = .error (.unsat a) := by
  have hstep := callWith_cases c cgr target fuel s0
  generalize callWith c cgr target fuel s0 = o at hstep h
  cases hstep with
  | graphUnsat hu => exact .inl (fun h0 => by rw [h0] at hu; cases hu)
  | @reachErr hu e s hr => rw [hr]; cases e <;> cases h; exact .inr rfl
  | @directErr hu am s hr e s2 hc => cases e <;> cases h
  | @executed hu am s hr r unw s2 hc => dsimp only at h; split at h <;> cases h

theorem callWith_panic (c : Ctx) (cgr : CallGraphResult) (target : FuncDesc) (fuel : Nat) (s0 : CallSt)
    (k : PanicKind) (h : (callWith c cgr target fuel s0).1 = .panic k) :
    (reach c false fuel [] cgr.target s0).1 = .error (.panic k) ∨ k = .setNotAssignable := by
  have hstep := callWith_cases c cgr target fuel s0
  generalize callWith c cgr target fuel s0 = o at hstep h
  cases hstep with
  | graphUnsat hu => cases h
  | @reachErr hu e s hr => rw [hr]; cases e <;> cases h; exact .inl rfl
  | @directErr hu am s hr e s2 hc =>
    rcases ExecEqs.callDirect_err hc with rfl | rfl
    · cases h
    · cases h; exact .inr rfl
  | @executed hu am s hr r unw s2 hc => dsimp only at h; split at h <;> cases h

theorem outcome_cases (o : Outcome) (h1 : ∀ a fg, o ≠ .unsat a fg) (h2 : o ≠ .missingArg)
    (h3 : ∀ k, o ≠ .panic k) (h4 : o ≠ .outOfFuel) :
    (∃ res, o = .ok res) ∨ (∃ ε, o = .convErr ε) ∨ (∃ ε res, o = .targetErr ε res) ∨ (∃ w, o = .badOracle w) := by
  cases o with
  | ok res => exact Or.inl ⟨res, rfl⟩
  | unsat a fg => exact absurd rfl (h1 a fg)
  | convErr ε => exact Or.inr (Or.inl ⟨ε, rfl⟩)
  | targetErr ε res => exact Or.inr (Or.inr (Or.inl ⟨ε, res, rfl⟩))
  | missingArg => exact absurd rfl h2
  | panic k => exact absurd rfl (h3 k)
  | outOfFuel => exact absurd rfl h4
  | badOracle w => exact Or.inr (Or.inr (Or.inr ⟨w, rfl⟩))

/-! ### fuel -/

theorem callWith_no_fuel (c : Ctx) (htr : c.trackReaching = true) (hwf : c.g.WF)
    (cgr : CallGraphResult) (target : FuncDesc) (htv : cgr.target = .func target.key)
    (m : Nat) (hfuel : (c.g.verts.filter Vtx.isFunc).length ≤ m) (s0 : CallSt) :
    (callWith c cgr target (m + 1) s0).1 ≠ .outOfFuel := by
  intro h
  have h' := Termination.callWith_outOfFuel c cgr target (m + 1) s0 h
  rw [htv] at h'
  refine Termination.reach_succ_ok c Termination.IsFuel (Termination.safe_fuel c) hwf false m []
    (.func target.key) s0 ?_ ?_ _ h' rfl
  · intro k _ _ h; cases h
  · intro k hk hnr st e he hb
    cases hb
    refine Termination.reach_fuel c htr hwf false m [.func target.key] (.func k) st hk rfl (hnr htr) ?_ he
    exact Nat.le_trans (CompleteAcyclic.measure_cons_le _ _ _)
      (Nat.le_trans (CompleteAcyclic.measure_nil_le _) hfuel)

/-! ### the standard context: the remaining panic sites -/

section
variable {e : TypeEnv} {b : Builder} {funcs : Nat → Option FuncDesc} {target : FuncDesc}

theorem finish' (H : WalkPanic.Hyps e b funcs target) (beh : Nat → Nat → List PVal → BehOut)
    (hsat : (callGraph {} e b funcs target false none).unsat = [])
    (hreqs : ∀ k f, (C01.stdCtx e b funcs target beh).funcOf k = some f →
        (∃ u, (C01.stdCtx e b funcs target beh).g.hasEdge (.func k) u = true) →
        ∀ v ∈ f.input.values, v.lab.vertex ∈ (C01.stdCtx e b funcs target beh).g.outs (.func k))
    (fuel : Nat)
    (hfuel : ((callGraph {} e b funcs target false none).cg.g.verts.filter Vtx.isFunc).length + 1 ≤ fuel)
    (memo : List (Nat × Memo)) (orc : List OrcItem)
    (hnu : ∀ a, (reach (C01.stdCtx e b funcs target beh) false fuel [] (.func target.key)
      (initSt (callGraph {} e b funcs target false none).cg memo orc)).1 ≠ .error (.unsat a)) :
    let r := callWith (C01.stdCtx e b funcs target beh) (callGraph {} e b funcs target false none) target fuel
              (initSt (callGraph {} e b funcs target false none).cg memo orc)
    (∃ res, r.1 = .ok res) ∨ (∃ ε, r.1 = .convErr ε) ∨ (∃ ε res, r.1 = .targetErr ε res) ∨ (∃ w, r.1 = .badOracle w) := by
  intro r
  obtain ⟨c1, c2, c3⟩ := WalkPanic.core_items H beh True (fun _ _ => hreqs) fuel memo orc
  obtain ⟨m, rfl⟩ : ∃ m, fuel = m + 1 := ⟨fuel - 1, by omega⟩
  apply outcome_cases
  · intro a fg h
    rcases callWith_unsat _ _ _ _ _ a fg h with h' | h'
    · exact h' hsat
    · exact hnu a h'
  · exact c3 trivial
  · intro k h
    rcases callWith_panic _ _ _ _ _ k h with h' | h'
    · have hp := Termination.reach_panic3 (C01.stdCtx e b funcs target beh) rfl
        (fun _ => (ctxStd_call beh).funcOf_isSome) (ctxStd_call beh).wf false (m + 1) [] _ _ _ h'
      cases k with
      | finalValue => exact c1 h
      | setNotAssignable => exact c2 h
      | elemOnStruct => exact hp (Or.inl rfl)
      | emptyPath => exact hp (Or.inr (Or.inr rfl))
      | unknownVertex => exact hp (Or.inr (Or.inl rfl))
    · subst h'; exact c2 h
  · refine callWith_no_fuel _ rfl (ctxStd_call beh).wf _ target rfl m ?_ _
    rw [(ctxStd_call beh).g]
    omega

theorem finish (H : WalkPanic.Hyps e b funcs target) (beh : Nat → Nat → List PVal → BehOut)
    (hsat : (callGraph {} e b funcs target false none).unsat = [])
    (hreqs : ∀ k f, (C01.stdCtx e b funcs target beh).funcOf k = some f →
        (∃ u, (C01.stdCtx e b funcs target beh).g.hasEdge (.func k) u = true) →
        ∀ v ∈ f.input.values, v.lab.vertex ∈ (C01.stdCtx e b funcs target beh).g.outs (.func k))
    (fuel : Nat)
    (hfuel : ((callGraph {} e b funcs target false none).cg.g.verts.filter Vtx.isFunc).length + 1 ≤ fuel)
    (memo : List (Nat × Memo)) (orc : List OrcItem)
    (hitems : ∀ it ∈ orc, WalkPanic.ItemOK (C01.stdCtx e b funcs target beh).g it)
    (hnu : ∀ a, (reach (C01.stdCtx e b funcs target beh) false fuel [] (.func target.key)
      (initSt (callGraph {} e b funcs target false none).cg memo orc)).1 ≠ .error (.unsat a)) :
    let r := callWith (C01.stdCtx e b funcs target beh) (callGraph {} e b funcs target false none) target fuel
              (initSt (callGraph {} e b funcs target false none).cg memo orc)
    (∃ res, r.1 = .ok res) ∨ (∃ ε, r.1 = .convErr ε) ∨ (∃ ε res, r.1 = .targetErr ε res) ∨ (∃ w, r.1 = .badOracle w) :=
  finish' H beh hsat hreqs fuel hfuel memo orc hnu

/-- **clause (b), full label language**: acyclic pruned graph, every surviving converter keeps its parameter
vertices; every oracle, since an R6 hop copies the value (repair of finding F22) -/
theorem acyclic_core (H : WalkPanic.Hyps e b funcs target) (beh : Nat → Nat → List PVal → BehOut)
    (hsat : (callGraph {} e b funcs target false none).unsat = [])
    (rank : Vtx → Nat)
    (hacyc : ∀ x y, (callGraph {} e b funcs target false none).cg.g.hasEdge x y = true → rank y < rank x)
    (hall : ∀ f ∈ b.convs.filterMap funcs, Vtx.func f.key ∈ (callGraph {} e b funcs target false none).cg.g.verts →
      ∀ v ∈ f.input.values, v.lab.vertex ∈ (callGraph {} e b funcs target false none).cg.g.verts)
    (fuel : Nat)
    (hfuel : ((callGraph {} e b funcs target false none).cg.g.verts.filter Vtx.isFunc).length + 1 ≤ fuel)
    (memo : List (Nat × Memo)) (orc : List OrcItem) :
    let r := callWith (C01.stdCtx e b funcs target beh) (callGraph {} e b funcs target false none) target fuel
              (initSt (callGraph {} e b funcs target false none).cg memo orc)
    (∃ res, r.1 = .ok res) ∨ (∃ ε, r.1 = .convErr ε) ∨ (∃ ε res, r.1 = .targetErr ε res) ∨ (∃ w, r.1 = .badOracle w) := by
  rcases CompleteAcyclic.complete_core H.toStd H.trans hsat rank hacyc hall beh False (fun h => h.elim)
      fuel hfuel memo (fun h => h.elim) orc with h | ⟨h, _⟩ | ⟨h, _⟩ | h
  · exact .inl h
  · exact .inr (.inl h)
  · exact .inr (.inr (.inl h))
  · exact .inr (.inr (.inr h))

end

end ArgMapper.CompleteLegal
