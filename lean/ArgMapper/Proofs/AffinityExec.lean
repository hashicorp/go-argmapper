import ArgMapper.Proofs.ExecEqs
/-!
# Execution-level helper lemmas for C07 (`Props/C07c.lean`)

A converter whose single requirement already holds a value is resolved without any path walk
(`reach` returns the one-entry argument map), executed exactly once by `callDirect`, and whatever
happens afterwards (`outputValues`, a returned error) leaves the log alone.
-/
namespace ArgMapper.AffinityExec
open ArgMapper WalkEqs ExecEqs

theorem mapGet_mapSet_ne {β : Type} (m : List (Vtx × β)) (k k' : Vtx) (v : β) (h : k' ≠ k) :
    mapGet (mapSet m k v) k' = mapGet m k' := by
  rw [mapGet_mapSet, if_neg h]

theorem reach_single (c : Ctx) (fuel : Nat) (reaching : List Vtx) (s : CallSt) (k : Nat) (q : Vtx) (x : PVal)
    (item : OrcItem) (orest : List OrcItem)
    (hreq : c.g.outs (.func k) = [q]) (hq : (q == Vtx.root) = false) (htaken : takenAsIs c s q = true)
    (hget : s.get q = some x)
    (horc : s.orc = item :: orest) (hitem : item.target = .func k) (hmiss : item.missing = [])
    (hskip : c.skipRecordsInput = false) :
    reach c false (fuel + 1) reaching (.func k) s = (.ok [(q, x)], { s with orc := orest }) := by
  unfold reach
  simp only [hreq, hskip, horc, hitem, hmiss, List.filter_cons, List.filter_nil, hq, htaken, Bool.false_or,
    Bool.not_true, Bool.false_eq_true, if_false, if_true, List.filterMap_cons, List.filterMap_nil, hget,
    Option.map_some, ne_eq, not_true_eq_false, sameMembers, List.all_nil, Bool.and_self, decide_true,
    List.isEmpty_nil, List.length_nil]

theorem gatherArgs_single (e : TypeEnv) (f : FuncDesc) (q : Vtx) (t : Nat) (x : PVal)
    (hin : f.input.values.map (fun v => v.lab.vertex) = [q])
    (hlabty : ∀ v ∈ f.input.values, v.lab.ty = t) (hassign : e.assignable x.ty t = true) :
    gatherArgs e f [(q, x)] = .ok [{ ty := t, id := x.id, org := x.org }] := by
  unfold gatherArgs
  match hv : f.input.values, hin, hlabty with
  | [v], hin, hlabty =>
    simp only [List.map_cons, List.map_nil, List.cons.injEq, and_true] at hin
    have ht : v.lab.ty = t := hlabty v (by simp)
    simp [List.foldl_cons, hin, ht, mapGet, hassign]

theorem callDirect_single (c : Ctx) (f : FuncDesc) (s : CallSt) (q : Vtx) (t : Nat) (x : PVal)
    (honce : f.once = false)
    (hin : f.input.values.map (fun v => v.lab.vertex) = [q])
    (hlabty : ∀ v ∈ f.input.values, v.lab.ty = t) (hassign : c.env.assignable x.ty t = true) :
    ∃ r s2 ev, callDirect c f [(q, x)] s = (.ok (r, false), s2) ∧ s2.log = s.log ++ [ev] ∧
      ev.fid = f.id ∧ ev.args = [{ ty := t, id := x.id, org := x.org }] := by
  unfold callDirect
  simp only [honce, Bool.false_eq_true, if_false, gatherArgs_single c.env f q t x hin hlabty hassign]
  exact ⟨_, _, _, rfl, rfl, rfl, rfl⟩

theorem walkStep_func_log (c : Ctx) (rec : Vtx → CallSt → Except RErr ArgMap × CallSt) (w : WalkSt)
    (h : w.err = none) (k : Nat) (f : FuncDesc) (hf : c.funcOf k = some f)
    (am : ArgMap) (s1 : CallSt) (hr : rec (.func k) w.s = (.ok am, s1))
    (r : BehOut) (unw : Bool) (s2 : CallSt) (hc : callDirect c f am s1 = (.ok (r, unw), s2)) :
    (walkStep c rec w (.func k)).s.log = s2.log := by
  cases hre : r.err with
  | some ε => rw [walkStep_func_funcErr c rec h k hf hr hc hre]
  | none =>
    cases hov : outputValues c f r unw s2 with
    | error e => rw [walkStep_func_outErr c rec h k hf hr hc hre hov]
    | ok s3 =>
      rw [walkStep_func_ok c rec h k hf hr hc hre hov]
      obtain ⟨st, memo, rfl, _⟩ := outputValues_ok hov
      rfl

theorem walkStep_func_single (c : Ctx) (fuel : Nat) (reaching : List Vtx) (w : WalkSt) (h : w.err = none)
    (k : Nat) (f : FuncDesc) (q : Vtx) (t : Nat) (x : PVal) (item : OrcItem) (orest : List OrcItem)
    (hf : c.funcOf k = some f) (honce : f.once = false)
    (hreq : c.g.outs (.func k) = [q]) (hq : (q == Vtx.root) = false) (htaken : takenAsIs c w.s q = true)
    (hget : w.s.get q = some x)
    (hin : f.input.values.map (fun v => v.lab.vertex) = [q])
    (hlabty : ∀ v ∈ f.input.values, v.lab.ty = t) (hassign : c.env.assignable x.ty t = true)
    (horc : w.s.orc = item :: orest) (hitem : item.target = .func k) (hmiss : item.missing = [])
    (hskip : c.skipRecordsInput = false) :
    ∃ ev, (walkStep c (fun v st => reach c false (fuel + 1) reaching v st) w (.func k)).s.log = w.s.log ++ [ev] ∧
      ev.fid = f.id ∧ ev.args = [{ ty := t, id := x.id, org := x.org }] := by
  have hr := reach_single c fuel reaching w.s k q x item orest hreq hq htaken hget horc hitem hmiss hskip
  obtain ⟨r, s2, ev, hc, hlog, hfid, hargs⟩ :=
    callDirect_single c f { w.s with orc := orest } q t x honce hin hlabty hassign
  refine ⟨ev, ?_, hfid, hargs⟩
  rw [walkStep_func_log c _ w h k f hf _ _ hr r false s2 hc, hlog]

/-! ### the path prefixes -/

theorem walk_root_value (c : Ctx) (rec : Vtx → CallSt → Except RErr ArgMap × CallSt) (s : CallSt)
    (n : String) (tu : Nat) (su : String) (x : PVal) (hx : s.get (.value n tu su) = some x) :
    [Vtx.root, .value n tu su].foldl (walkStep c rec) { s := s, final := none, prev := none, err := none } =
      { s := { s with last := some x }, final := some x, prev := some (.value n tu su), err := none } := by
  simp only [List.foldl_cons, List.foldl_nil]
  rw [walkStep_root c rec rfl, walkStep_value c rec rfl]
  simp only [valCopy, hx, ite_self]
  rfl

@[simp] theorem set_orc (s : CallSt) (v : Vtx) (x : Option PVal) : (s.set v x).orc = s.orc := by
  obtain ⟨st, h⟩ := set_frame s v x; rw [h]

theorem get_set_self (s : CallSt) (v : Vtx) (x : PVal) : (s.set v (some x)).get v = some x := by
  simp only [CallSt.get, CallSt.set, mapGet_mapSet, if_pos]

theorem walk_root_value_arg (c : Ctx) (rec : Vtx → CallSt → Except RErr ArgMap × CallSt) (s : CallSt)
    (n : String) (tu : Nat) (su : String) (t : Nat) (x : PVal) (hx : s.get (.value n tu su) = some x)
    (hassign : c.env.assignable x.ty t = true) :
    [Vtx.root, .value n tu su, .arg t ""].foldl (walkStep c rec) { s := s, final := none, prev := none, err := none } =
      { s := ({ s with last := some x } : CallSt).set (.arg t "") (some x), final := some x,
        prev := some (.arg t ""), err := none } := by
  have h := walk_root_value c rec s n tu su x hx
  simp only [List.foldl_cons, List.foldl_nil] at h ⊢
  rw [h, walkStep_arg c rec rfl]
  simp only [argStore, hassign, if_true, get_set_self]

end ArgMapper.AffinityExec
