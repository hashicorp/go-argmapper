import ArgMapper.Model.Sig
import ArgMapper.Proofs.Args
import ArgMapper.Proofs.StrEval
/-!
# Helper lemmas for C14 / C15: the `fromStructStep` fold in closed form
-/
namespace ArgMapper

/-! ### the fold over the struct fields -/

def keep (f : Field) : Bool := f.exported && !f.marker

/-- the values produced from fields `fs` when the first of them has position `i` -/
def structVals : Nat → List Field → List SVal
  | _, [] => []
  | i, f :: fs => (if keep f then [{ lab := fieldLabel f, index := i }] else []) ++ structVals (i + 1) fs

def namedStep (m : List (String × SVal)) (v : SVal) : List (String × SVal) :=
  if v.lab.name ≠ "" then mapSet m v.lab.name v else m

def typedStep (m : List (Nat × SVal)) (v : SVal) : List (Nat × SVal) :=
  if v.lab.name ≠ "" then m else mapSet m v.lab.ty v

def namedW (v : SVal) : List (String × SVal) := if v.lab.name ≠ "" then [(v.lab.name, v)] else []
def typedW (v : SVal) : List (Nat × SVal) := if v.lab.name ≠ "" then [] else [(v.lab.ty, v)]

theorem skipped_eq_not_keep (f : Field) : (!f.exported || f.marker) = !keep f := by
  unfold keep; cases f.exported <;> cases f.marker <;> rfl

theorem fromStructStep_skip {f : Field} (h : keep f = false) (a : FsAcc) :
    fromStructStep a f = { a with idx := a.idx + 1 } := by
  unfold fromStructStep; rw [skipped_eq_not_keep, h]; rfl

theorem fromStructStep_keep {f : Field} (h : keep f = true) (a : FsAcc) :
    fromStructStep a f =
      { idx := a.idx + 1, values := a.values ++ [⟨fieldLabel f, a.idx⟩],
        named := namedStep a.named ⟨fieldLabel f, a.idx⟩, typed := typedStep a.typed ⟨fieldLabel f, a.idx⟩ } := by
  unfold fromStructStep namedStep typedStep; rw [skipped_eq_not_keep, h]
  by_cases hn : (fieldLabel f).name = ""
  · simp only [Bool.not_true, Bool.false_eq_true, if_false, ne_eq, hn, not_true_eq_false]
  · simp only [Bool.not_true, Bool.false_eq_true, if_false, ne_eq, hn, not_false_eq_true, if_true]

theorem foldl_fromStructStep (fs : List Field) : ∀ (a : FsAcc),
    fs.foldl fromStructStep a =
      { idx := a.idx + fs.length,
        values := a.values ++ structVals a.idx fs,
        named := (structVals a.idx fs).foldl namedStep a.named,
        typed := (structVals a.idx fs).foldl typedStep a.typed } := by
  induction fs with
  | nil => intro a; simp only [List.foldl_nil, structVals, List.length_nil, Nat.add_zero, List.append_nil]
  | cons f fs ih =>
    intro a
    rw [List.foldl_cons, ih, structVals, List.length_cons, ← Nat.add_assoc a.idx fs.length 1,
      Nat.add_right_comm a.idx fs.length 1]
    cases hk : keep f
    · rw [fromStructStep_skip hk, if_neg Bool.false_ne_true, List.nil_append]
    · rw [fromStructStep_keep hk, if_pos rfl, List.append_assoc, List.foldl_append, List.foldl_append,
        List.foldl_cons, List.foldl_nil, List.foldl_cons, List.foldl_nil]

theorem newValueSetFromStruct_eq (d : Nat) (hd : d ≤ 1) (fs : List Field) :
    newValueSetFromStruct d fs = .ok
      { hasStruct := true, ptrs := d, values := structVals 0 fs,
        named := (structVals 0 fs).foldl namedStep [],
        typed := (structVals 0 fs).foldl typedStep [], lifted := false } := by
  unfold newValueSetFromStruct
  rw [if_neg (Nat.not_lt.2 hd), foldl_fromStructStep, List.nil_append]

theorem structVals_labels (fs : List Field) : ∀ i,
    (structVals i fs).map (·.lab) = specStructLabels fs := by
  induction fs with
  | nil => intro i; rfl
  | cons f fs ih =>
    intro i
    rw [structVals, List.map_append, ih]
    unfold specStructLabels
    rw [List.filter_cons]
    cases hk : keep f <;> rw [show (f.exported && !f.marker) = _ from hk] <;> rfl

theorem structVals_mem (fs : List Field) : ∀ i v, v ∈ structVals i fs →
    ∃ j f, fs[j]? = some f ∧ v.index = i + j ∧ keep f = true ∧ fieldLabel f = v.lab := by
  induction fs with
  | nil => intro i v h; cases h
  | cons f fs ih =>
    intro i v h
    rw [structVals, List.mem_append] at h
    rcases h with h | h
    · cases hk : keep f
      · rw [hk] at h; cases h
      · rw [hk, if_pos rfl, List.mem_singleton] at h
        exact ⟨0, f, rfl, h ▸ rfl, hk, h ▸ rfl⟩
    · obtain ⟨j, g, h1, h2, h3⟩ := ih (i + 1) v h
      exact ⟨j + 1, g, h1, by rw [h2, Nat.add_assoc, Nat.add_comm 1], h3⟩

theorem structVals_all_keep (fs : List Field) (hk : ∀ f ∈ fs, keep f = true) : ∀ i,
    structVals i fs = fs.mapIdx (fun j f => ({ lab := fieldLabel f, index := i + j } : SVal)) := by
  induction fs with
  | nil => intro i; rfl
  | cons f fs ih =>
    intro i
    rw [structVals, hk f List.mem_cons_self, if_pos rfl, ih (fun g hg => hk g (List.mem_cons_of_mem _ hg)),
      List.mapIdx_cons]
    simp only [Nat.add_zero, List.singleton_append, Nat.add_assoc, Nat.add_comm 1]

theorem structVals_all_keep_length (fs : List Field) (hk : ∀ f ∈ fs, keep f = true) : ∀ i,
    (structVals i fs).length = fs.length := by
  intro i; rw [structVals_all_keep fs hk, List.length_mapIdx]

/-! ### lookups in the maps built by the fold -/

theorem mapGet_foldl_namedStep (vals : List SVal) (m : List (String × SVal)) (n : String) :
    mapGet (vals.foldl namedStep m) n = (lastW (vals.flatMap namedW) n).or (mapGet m n) := by
  refine get_foldl_lastW mapGet namedStep namedW ?_ vals m n
  intro b a k
  unfold namedStep namedW
  by_cases h : a.lab.name = ""
  · rw [if_neg (not_not_intro h), if_neg (not_not_intro h)]; rfl
  · rw [if_pos h, if_pos h, mapGet_mapSet, lastW_singleton_or]

theorem mapGet_foldl_typedStep (vals : List SVal) (m : List (Nat × SVal)) (t : Nat) :
    mapGet (vals.foldl typedStep m) t = (lastW (vals.flatMap typedW) t).or (mapGet m t) := by
  refine get_foldl_lastW mapGet typedStep typedW ?_ vals m t
  intro b a k
  unfold typedStep typedW
  by_cases h : a.lab.name = ""
  · rw [if_neg (not_not_intro h), if_neg (not_not_intro h), mapGet_mapSet, lastW_singleton_or]
  · rw [if_pos h, if_pos h]; rfl

theorem mem_flatMap_namedW {vals : List SVal} {n : String} {v : SVal} :
    (n, v) ∈ vals.flatMap namedW ↔ v ∈ vals ∧ v.lab.name ≠ "" ∧ n = v.lab.name := by
  rw [List.mem_flatMap]
  constructor
  · rintro ⟨u, hu, hw⟩
    unfold namedW at hw
    split at hw
    · next hne => cases List.mem_singleton.1 hw; exact ⟨hu, hne, rfl⟩
    · cases hw
  · rintro ⟨hv, hne, rfl⟩
    exact ⟨v, hv, by rw [namedW, if_pos hne]; exact List.mem_singleton.2 rfl⟩

theorem mem_flatMap_typedW {vals : List SVal} {t : Nat} {v : SVal} :
    (t, v) ∈ vals.flatMap typedW ↔ v ∈ vals ∧ v.lab.name = "" ∧ t = v.lab.ty := by
  rw [List.mem_flatMap]
  constructor
  · rintro ⟨u, hu, hw⟩
    unfold typedW at hw
    split at hw
    · cases hw
    · next hne => cases List.mem_singleton.1 hw; exact ⟨hu, Decidable.not_not.1 hne, rfl⟩
  · rintro ⟨hv, hn, rfl⟩
    exact ⟨v, hv, by rw [typedW, if_neg (not_not_intro hn)]; exact List.mem_singleton.2 rfl⟩

theorem namedLookup_of_unique {vals : List SVal} {x : SVal} (hx : x ∈ vals) (hn : x.lab.name ≠ "")
    (hu : ∀ v ∈ vals, v.lab.name = x.lab.name → v = x) :
    mapGet (vals.foldl namedStep []) x.lab.name = some x := by
  rw [mapGet_foldl_namedStep, mapGet_nil, Option.or_none]
  refine lastW_eq_of_forall (mem_flatMap_namedW.2 ⟨hx, hn, rfl⟩) ?_
  intro v hv
  obtain ⟨h1, _, h3⟩ := mem_flatMap_namedW.1 hv
  exact hu v h1 h3.symm

theorem typedLookup_of_unique {vals : List SVal} {x : SVal} (hx : x ∈ vals) (hn : x.lab.name = "")
    (hu : ∀ v ∈ vals, v.lab.name = "" → v.lab.ty = x.lab.ty → v = x) :
    mapGet (vals.foldl typedStep []) x.lab.ty = some x := by
  rw [mapGet_foldl_typedStep, mapGet_nil, Option.or_none]
  refine lastW_eq_of_forall (mem_flatMap_typedW.2 ⟨hx, hn, rfl⟩) ?_
  intro v hv
  obtain ⟨h1, h2, h3⟩ := mem_flatMap_typedW.1 hv
  exact hu v h1 h2 h3.symm

theorem foldl_typedStep_fresh (vals : List SVal) : ∀ (acc : List (Nat × SVal)),
    (acc.map (·.1) ++ (vals.flatMap typedW).map (·.1)).Nodup →
    vals.foldl typedStep acc = acc ++ vals.flatMap typedW := by
  induction vals with
  | nil => intro acc _; exact (List.append_nil acc).symm
  | cons v vals ih =>
    intro acc hnd
    rw [List.flatMap_cons, List.map_append, ← List.append_assoc, ← List.map_append] at hnd
    have hstep : typedStep acc v = acc ++ typedW v := by
      unfold typedStep typedW
      split
      · exact (List.append_nil acc).symm
      · next hne =>
        refine mapSet_of_not_mem acc _ _ (fun hmem => ?_)
        rw [typedW, if_neg hne, List.map_append, List.append_assoc, List.nodup_append] at hnd
        exact hnd.2.2 _ hmem _ (List.mem_append_left _ (List.mem_singleton.2 rfl)) rfl
    rw [List.foldl_cons, hstep, ih _ hnd, List.flatMap_cons, List.append_assoc]

/-! ### numbered lists -/

theorem mem_mapIdx_iff {α γ : Type} {l : List α} {f : Nat → α → γ} {b : γ} :
    b ∈ l.mapIdx f ↔ ∃ j a, l[j]? = some a ∧ b = f j a := by
  rw [List.mem_mapIdx]
  constructor
  · rintro ⟨j, h, rfl⟩; exact ⟨j, l[j], List.getElem?_eq_getElem h, rfl⟩
  · rintro ⟨j, a, hj, rfl⟩
    obtain ⟨h, rfl⟩ := List.getElem?_eq_some_iff.1 hj
    exact ⟨j, h, rfl⟩

theorem map_mapIdx {α β γ : Type} (g : β → γ) (f : Nat → α → β) (l : List α) :
    (l.mapIdx f).map g = l.mapIdx (fun i a => g (f i a)) := by
  refine (List.mapIdx_eq_iff.2 fun j => ?_).symm
  rw [List.getElem?_map, List.getElem?_mapIdx, Option.map_map]; rfl

theorem mapIdx_eq_map {α γ : Type} (g : α → γ) (l : List α) : l.mapIdx (fun _ a => g a) = l.map g :=
  List.mapIdx_eq_iff.2 fun _ => List.getElem?_map ..

theorem mapIdx_eq_map_range {α γ : Type} (h : Nat → γ) (l : List α) :
    l.mapIdx (fun j _ => h j) = (List.range l.length).map h := by
  refine List.mapIdx_eq_iff.2 fun j => ?_
  rw [List.getElem?_map]
  by_cases hj : j < l.length
  · rw [List.getElem?_range hj, List.getElem?_eq_getElem hj]; rfl
  · rw [List.getElem?_eq_none (Nat.le_of_not_lt hj),
      List.getElem?_eq_none (by rw [List.length_range]; exact Nat.le_of_not_lt hj)]; rfl

theorem zipWith_range_eq_mapIdx {α γ : Type} (f : Nat → α → γ) (l : List α) :
    List.zipWith f (List.range l.length) l = l.mapIdx f := by
  refine (List.mapIdx_eq_iff.2 fun j => ?_).symm
  rw [List.getElem?_zipWith]
  by_cases h : j < l.length
  · rw [List.getElem?_range h, List.getElem?_eq_getElem h]; rfl
  · rw [List.getElem?_eq_none (Nat.le_of_not_lt h)]; cases (List.range l.length)[j]? <;> rfl

/-! ### positional (lifted) parameter lists -/

theorem fieldLabel_liftedField (i ty : Nat) : fieldLabel (liftedField i ty) = ⟨"", ty, ""⟩ := by
  simp [fieldLabel, liftedField, parseTag_typeOnly]

theorem keep_liftedField (i ty : Nat) : keep (liftedField i ty) = true := rfl

def liftedVal (j : Nat) (t : Nat) : SVal := { lab := ⟨"", t, ""⟩, index := j }

theorem structVals_lifted (tys : List Nat) :
    structVals 0 (tys.mapIdx liftedField) = tys.mapIdx liftedVal := by
  rw [structVals_all_keep, List.mapIdx_mapIdx]
  · simp only [Function.comp_def, fieldLabel_liftedField, Nat.zero_add]; rfl
  · intro f hf
    obtain ⟨j, _, rfl⟩ := List.mem_mapIdx.1 hf
    rfl

theorem newValueSetLifted_eq (ps : List Param) (hns : ∀ p ∈ ps, p.isStruct = false) :
    newValueSetLifted ps = .ok
      { hasStruct := true, ptrs := 0, values := (ps.map Param.ty).mapIdx liftedVal,
        named := ((ps.map Param.ty).mapIdx liftedVal).foldl namedStep [],
        typed := ((ps.map Param.ty).mapIdx liftedVal).foldl typedStep [], lifted := true } := by
  unfold newValueSetLifted
  have h1 : ps.any Param.isStruct = false :=
    List.any_eq_false.2 fun p hp => by rw [hns p hp]; exact Bool.false_ne_true
  have h2 := zipWith_range_eq_mapIdx liftedField (ps.map Param.ty)
  rw [List.length_map] at h2
  rw [h1, h2, newValueSetFromStruct_eq 0 (Nat.zero_le 1), structVals_lifted]
  rfl

theorem newValueSet_eq_lifted (ps : List Param) (hns : ∀ p ∈ ps, p.isStruct = false) (hne : ps ≠ []) :
    newValueSet ps = newValueSetLifted ps := by
  unfold newValueSet
  split
  · exact absurd rfl hne
  · next t d fs => rw [hns _ (List.mem_singleton.2 rfl), if_neg Bool.false_ne_true]
  · rfl

theorem flatMap_typedW_of_unnamed (vals : List SVal) (h : ∀ v ∈ vals, v.lab.name = "") :
    vals.flatMap typedW = vals.map (fun v => (v.lab.ty, v)) := by
  induction vals with
  | nil => rfl
  | cons v vals ih =>
    rw [List.flatMap_cons, List.map_cons, ih (fun u hu => h u (List.mem_cons_of_mem _ hu)), typedW,
      if_neg (not_not_intro (h v List.mem_cons_self))]; rfl

theorem typed_lifted (tys : List Nat) (hd : tys.Nodup) :
    (tys.mapIdx liftedVal).foldl typedStep [] = tys.mapIdx (fun j t => (t, liftedVal j t)) := by
  have hw : (tys.mapIdx liftedVal).flatMap typedW = tys.mapIdx (fun j t => (t, liftedVal j t)) := by
    rw [flatMap_typedW_of_unnamed, map_mapIdx]; rfl
    intro v hv
    obtain ⟨j, _, rfl⟩ := List.mem_mapIdx.1 hv
    rfl
  have hk : (tys.mapIdx (fun j t => (t, liftedVal j t))).map (·.1) = tys := by
    rw [map_mapIdx, mapIdx_eq_map, List.map_id']
  rw [foldl_typedStep_fresh _ [] (by rw [hw, hk]; exact hd), hw, List.nil_append]

/-! ### what `newValueSet` and `newFunc` build -/

/-- every value set `newValueSet` builds is empty or the closed form of `newValueSetFromStruct`, up to
the `lifted` flag -/
theorem newValueSet_ok_elim {P : ValueSet → Prop} (hnil : P ValueSet.nil)
    (hstruct : ∀ d fs l, P
      { hasStruct := true, ptrs := d, values := structVals 0 fs,
        named := (structVals 0 fs).foldl namedStep [],
        typed := (structVals 0 fs).foldl typedStep [], lifted := l })
    {ps : List Param} {vs : ValueSet} (h : newValueSet ps = .ok vs) : P vs := by
  have hs : ∀ {d fs vs} l, newValueSetFromStruct d fs = .ok vs → P { vs with lifted := l } := by
    intro d fs vs l h
    by_cases hd : d ≤ 1
    · rw [newValueSetFromStruct_eq d hd fs] at h; cases h; exact hstruct d fs l
    · rw [newValueSetFromStruct, if_pos (Nat.lt_of_not_le hd)] at h; cases h
  have hlift : ∀ {ps vs}, newValueSetLifted ps = .ok vs → P vs := by
    intro ps vs h
    unfold newValueSetLifted at h
    split at h
    · cases h
    · split at h
      · next vs' hvs => cases h; exact hs true hvs
      · cases h
  unfold newValueSet at h
  split at h
  · cases h; exact hnil
  · split at h
    · exact hs vs.lifted h
    · exact hlift h
  · exact hlift h

def lastIsErr (outs : List Param) : Bool :=
  match outs.getLast? with
  | some (.plain t) => t == errorTy
  | _ => false

theorem newFunc_eq (ins outs : List Param) :
    newFunc ins outs =
      match newValueSet ins with
      | .error e => .error e
      | .ok i =>
        match newValueSet (if lastIsErr outs then outs.dropLast else outs) with
        | .error e => .error e
        | .ok o => .ok { input := i, output := o, hasErr := lastIsErr outs } := rfl

theorem newFunc_ok' {ins outs : List Param} {fs : FuncSig} (h : newFunc ins outs = .ok fs) :
    newValueSet ins = .ok fs.input ∧
      newValueSet (if lastIsErr outs then outs.dropLast else outs) = .ok fs.output ∧
      fs.hasErr = lastIsErr outs := by
  rw [newFunc_eq] at h
  split at h
  · cases h
  · next i hi =>
    split at h
    · cases h
    · next o ho => cases h; exact ⟨hi, ho, rfl⟩

theorem newFunc_ok {ins outs : List Param} {fs : FuncSig} (h : newFunc ins outs = .ok fs) :
    newValueSet (if lastIsErr outs then outs.dropLast else outs) = .ok fs.output ∧
      fs.hasErr = lastIsErr outs :=
  (newFunc_ok' h).2

theorem lastIsErr_concat_error (outs : List Param) : lastIsErr (outs ++ [.plain errorTy]) = true := by
  simp [lastIsErr]

theorem lastIsErr_false (outs : List Param)
    (hl : ∀ p, outs.getLast? = some p → p.isStruct = true ∨ p.ty ≠ errorTy) : lastIsErr outs = false := by
  unfold lastIsErr
  split
  · next t hl' =>
    rcases hl _ hl' with h1 | h1
    · cases h1
    · exact beq_false_of_ne h1
  · rfl

end ArgMapper
