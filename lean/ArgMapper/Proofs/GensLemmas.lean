import ArgMapper.Model.Gens
import ArgMapper.Proofs.Prune
/-!
# Helper lemmas for the converter-generator properties (`ArgMapper/Props/Gens.lean`)

* a closed form of `runGens`: `none` iff some generator reports an error for some vertex of the
  order, otherwise the concatenation over the order of the functions returned per vertex;
* the vertices reported by `inputsGraph` are in the graph before the generators run.
-/
namespace ArgMapper
namespace GensLemmas

/-! ### the closed form of `runGens` -/

def resFunc : GenRes → Option Nat
  | .func fid => some fid
  | _ => none

def outs (genOf : Nat → Vtx → GenRes) (gens : List Nat) (v : Vtx) : List Nat :=
  gens.filterMap (fun g => resFunc (genOf g v))

def bad (genOf : Nat → Vtx → GenRes) (gens : List Nat) (v : Vtx) : Bool :=
  gens.any (fun g => genOf g v == .err)

/-- the step function of the inner loop of `runGens` -/
def gstep (genOf : Nat → Vtx → GenRes) (v : Vtx) (acc : Option (List Nat)) (g : Nat) : Option (List Nat) :=
  match acc with
  | none => none
  | some l =>
    match genOf g v with
    | .nothing => some l
    | .func fid => some (l ++ [fid])
    | .err => none

theorem foldl_gstep_none (genOf : Nat → Vtx → GenRes) (v : Vtx) (gens : List Nat) :
    gens.foldl (gstep genOf v) none = none := by
  induction gens with
  | nil => rfl
  | cons g gens ih => rw [List.foldl_cons]; exact ih

theorem foldl_gstep_some (genOf : Nat → Vtx → GenRes) (v : Vtx) (gens : List Nat) :
    ∀ l, gens.foldl (gstep genOf v) (some l) =
      if bad genOf gens v then none else some (l ++ outs genOf gens v) := by
  induction gens with
  | nil => intro l; simp [bad, outs]
  | cons g gens ih =>
    intro l
    rw [List.foldl_cons]
    cases hg : genOf g v with
    | nothing =>
      have : gstep genOf v (some l) g = some l := by simp [gstep, hg]
      rw [this, ih]
      simp [bad, outs, hg, resFunc]
    | func fid =>
      have : gstep genOf v (some l) g = some (l ++ [fid]) := by simp [gstep, hg]
      rw [this, ih]
      simp [bad, outs, hg, resFunc]
    | err =>
      have : gstep genOf v (some l) g = none := by simp [gstep, hg]
      rw [this, foldl_gstep_none]
      simp [bad, hg]

theorem runGens_cons (genOf : Nat → Vtx → GenRes) (gens : List Nat) (v : Vtx) (rest : List Vtx) :
    runGens genOf gens (v :: rest) =
      if bad genOf gens v then none
      else (runGens genOf gens rest).map (fun l' => outs genOf gens v ++ l') := by
  have h := foldl_gstep_some genOf v gens []
  show (match gens.foldl (gstep genOf v) (some []), runGens genOf gens rest with
    | some l, some l' => some (l ++ l')
    | _, _ => none) = _
  rw [h]
  cases hb : bad genOf gens v
  · cases runGens genOf gens rest <;> simp
  · simp

theorem runGens_eq (genOf : Nat → Vtx → GenRes) (gens : List Nat) (order : List Vtx) :
    runGens genOf gens order =
      if order.any (bad genOf gens) then none else some (order.flatMap (outs genOf gens)) := by
  induction order with
  | nil => simp [runGens]
  | cons v rest ih =>
    rw [runGens_cons, ih]
    cases hb : bad genOf gens v
    · cases hr : rest.any (bad genOf gens) <;> simp [hb, hr]
    · simp [hb]

theorem any_bad_iff (genOf : Nat → Vtx → GenRes) (gens : List Nat) (order : List Vtx) :
    order.any (bad genOf gens) = true ↔ ∃ v ∈ order, ∃ g ∈ gens, genOf g v = .err := by
  simp [bad, List.any_eq_true]

theorem runGens_eq_none_iff (genOf : Nat → Vtx → GenRes) (gens : List Nat) (order : List Vtx) :
    runGens genOf gens order = none ↔ ∃ v ∈ order, ∃ g ∈ gens, genOf g v = .err := by
  rw [runGens_eq, ← any_bad_iff]
  cases order.any (bad genOf gens) <;> simp

theorem runGens_eq_some (genOf : Nat → Vtx → GenRes) (gens : List Nat) (order : List Vtx) (l : List Nat)
    (h : runGens genOf gens order = some l) : l = order.flatMap (outs genOf gens) := by
  rw [runGens_eq] at h
  split at h
  · cases h
  · exact (Option.some.inj h).symm

theorem mem_outs (genOf : Nat → Vtx → GenRes) (gens : List Nat) (v : Vtx) (fid : Nat) :
    fid ∈ outs genOf gens v ↔ ∃ g ∈ gens, genOf g v = .func fid := by
  simp only [outs, List.mem_filterMap]
  constructor
  · rintro ⟨g, hg, h⟩
    refine ⟨g, hg, ?_⟩
    cases hr : genOf g v <;> rw [hr] at h <;> simp [resFunc] at h
    rw [h]
  · rintro ⟨g, hg, h⟩
    exact ⟨g, hg, by rw [h]; rfl⟩

theorem runGens_nil_gens (genOf : Nat → Vtx → GenRes) (order : List Vtx) :
    runGens genOf [] order = some [] := by
  rw [runGens_eq]
  have h1 : order.any (bad genOf []) = false := by simp [bad]
  have h2 : order.flatMap (outs genOf []) = [] := by simp [outs]
  rw [h1, h2]
  rfl

/-! ### the snapshot -/

open Prune

theorem convFold_eq (funcs : Nat → Option FuncDesc) (l : List Nat) (c : CG) :
    l.foldl (fun c fid => match funcs fid with
      | some f => funcGraph c f true
      | none => c) c = l.foldl (convStep funcs) c := rfl

theorem preGenGraph_eq (b : Builder) (funcs : Nat → Option FuncDesc) (target : FuncDesc) :
    preGenGraph b funcs target = ExactWins.c3 b funcs target := rfl

theorem inputs_mem_preGen (b : Builder) (funcs : Nat → Option FuncDesc) (target : FuncDesc) (v : Vtx)
    (h : v ∈ inputsList b) : v ∈ (preGenGraph b funcs target).g.verts := by
  rw [preGenGraph_eq, c3_eq, RedefC.convs_run, RedefC.mem_run_verts, c2_eq, RedefC.supply_run,
    RedefC.mem_run_verts]
  exact .inl (.inr (RedefC.add_mem_inputOps h))

end GensLemmas
end ArgMapper
