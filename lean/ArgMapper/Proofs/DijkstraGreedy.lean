import ArgMapper.Proofs.Dijkstra
/-!
# Helper lemmas for C18: the greedy pop order is legal
-/
namespace ArgMapper.DijkstraProofs
open ArgMapper AGraph Dijkstra
variable {α : Type} [DecidableEq α]

omit [DecidableEq α] in
theorem pickMin_spec (s : DSt α) (l : List α) :
    (pickMin s l = none → l = []) ∧
    ∀ u, pickMin s l = some u → u ∈ l ∧ ∀ x ∈ l, s.dist u ≤ s.dist x := by
  induction l with
  | nil => exact ⟨fun _ => rfl, fun u h => by cases h⟩
  | cons x xs ih =>
    obtain ⟨ih1, ih2⟩ := ih
    unfold pickMin
    cases hp : pickMin s xs with
    | none =>
      cases ih1 hp
      refine ⟨fun h => (by cases h), fun u hu => ?_⟩
      cases hu
      exact ⟨List.mem_singleton_self _, fun z hz => List.mem_singleton.1 hz ▸ Int.le_refl _⟩
    | some y =>
      obtain ⟨hy, hmin⟩ := ih2 y hp
      refine ⟨fun h => (by simp only at h; split at h <;> cases h), fun u hu => ?_⟩
      simp only at hu
      split at hu
      · rename_i hle
        cases hu
        refine ⟨List.mem_cons_self, fun z hz => ?_⟩
        rcases List.mem_cons.1 hz with rfl | hz
        · exact Int.le_refl _
        · exact Int.le_trans hle (hmin z hz)
      · rename_i hle
        cases hu
        refine ⟨List.mem_cons_of_mem _ hy, fun z hz => ?_⟩
        rcases List.mem_cons.1 hz with rfl | hz
        · exact Int.le_of_lt (Int.not_le.1 hle)
        · exact hmin z hz

theorem mem_unvisited {g : AGraph α} {s : DSt α} {v : α} :
    v ∈ g.verts.filter (fun x => !decide (x ∈ s.visited)) ↔ v ∈ g.verts ∧ v ∉ s.visited := by
  rw [List.mem_filter, Bool.not_eq_true', decide_eq_false_iff_not]

theorem greedy_legalFrom (g : AGraph α) (n : Nat) (s : DSt α) :
    legalFrom g s (greedyPops g n s) = true := by
  induction n generalizing s with
  | zero => rfl
  | succ n ih =>
    unfold greedyPops
    cases hp : pickMin s (g.verts.filter (fun x => !decide (x ∈ s.visited))) with
    | none => rfl
    | some u =>
      obtain ⟨hu, hmin⟩ := (pickMin_spec s _).2 u hp
      rw [mem_unvisited] at hu
      refine (legalFrom_cons g s u _).2 ⟨⟨hu.1, hu.2, fun x hx => ?_⟩, ih _⟩
      by_cases hxv : x ∈ s.visited
      · exact Or.inl hxv
      · exact Or.inr (hmin x (mem_unvisited.2 ⟨hx, hxv⟩))

theorem greedy_nodup (g : AGraph α) (n : Nat) (s : DSt α) :
    (greedyPops g n s).Nodup ∧ ∀ x ∈ greedyPops g n s, x ∉ s.visited := by
  induction n generalizing s with
  | zero => exact ⟨List.nodup_nil, fun x hx => absurd hx List.not_mem_nil⟩
  | succ n ih =>
    unfold greedyPops
    cases hp : pickMin s (g.verts.filter (fun x => !decide (x ∈ s.visited))) with
    | none => exact ⟨List.nodup_nil, fun x hx => absurd hx List.not_mem_nil⟩
    | some u =>
      obtain ⟨hu, _⟩ := (pickMin_spec s _).2 u hp
      rw [mem_unvisited] at hu
      obtain ⟨ih1, ih2⟩ := ih (pop g s u)
      simp only [pop_visited, List.mem_cons, not_or] at ih2
      refine ⟨List.nodup_cons.2 ⟨fun h => (ih2 u h).1 rfl, ih1⟩, fun x hx => ?_⟩
      rcases List.mem_cons.1 hx with rfl | hx
      · exact hu.2
      · exact (ih2 x hx).2

theorem greedy_cover (g : AGraph α) (n : Nat) (s : DSt α)
    (hlen : (g.verts.filter (fun x => !decide (x ∈ s.visited))).length ≤ n) (v : α)
    (hv : v ∈ g.verts) (hvv : v ∉ s.visited) : v ∈ greedyPops g n s := by
  have hmem := mem_unvisited.2 ⟨hv, hvv⟩
  induction n generalizing s with
  | zero =>
    rw [List.eq_nil_of_length_eq_zero (Nat.le_zero.1 hlen)] at hmem
    cases hmem
  | succ n ih =>
    unfold greedyPops
    cases hp : pickMin s (g.verts.filter (fun x => !decide (x ∈ s.visited))) with
    | none =>
      rw [(pickMin_spec s _).1 hp] at hmem
      cases hmem
    | some u =>
      obtain ⟨hu, _⟩ := (pickMin_spec s _).2 u hp
      rw [mem_unvisited] at hu
      by_cases hvu : v = u
      · exact hvu ▸ List.mem_cons_self
      · have hvv' : v ∉ (pop g s u).visited := by
          rw [pop_visited]
          exact fun h => (List.mem_cons.1 h).elim hvu hvv
        refine List.mem_cons_of_mem _ (ih (pop g s u) ?_ hvv' (mem_unvisited.2 ⟨hv, hvv'⟩))
        -- one vertex fewer is unvisited
        have := length_filter_lt_of_imp (p := fun x => !decide (x ∈ (pop g s u).visited))
          (q := fun x => !decide (x ∈ s.visited)) (l := g.verts)
          (by intro x _; rw [pop_visited]; simp) hu.1 (by rw [pop_visited]; simp)
          (by simp [hu.2])
        omega

end ArgMapper.DijkstraProofs
