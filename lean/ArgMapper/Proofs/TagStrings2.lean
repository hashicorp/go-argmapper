import ArgMapper.Model.Sig
import ArgMapper.Proofs.TagStrings
import ArgMapper.Proofs.StrEval
import Batteries.Data.Char.AsciiCasing
/-!
# The struct-tag round trip (`valueField` then `fieldLabel`)

String-level consequences of `TagStrings.splitOn_char` (splitting at a character that does not occur,
splitting `p ++ sep ++ q`, `intercalate` and `splitOn` are inverse on separator-free pieces), `splitOpt` on
the two options and `parseTag` on the tags `valueField` renders, and `lower (upper s) = lower s`.
-/
namespace ArgMapper.TagStrings
open String ArgMapper

theorem comma_eq : "," = ','.toString := by decide +kernel
theorem eq_eq : "=" = '='.toString := by decide +kernel

theorem splitChars_not_mem (sep : Char) (p : List Char) (h : sep ∉ p) : splitChars sep p = [p] := by
  induction p with
  | nil => rfl
  | cons c p ih =>
    simp only [List.mem_cons, not_or] at h
    rw [splitChars_cons_ne _ _ _ (fun e => h.1 e.symm), ih h.2]
    rfl

theorem splitChars_append_sep (sep : Char) (p q : List Char) (h : sep ∉ p) :
    splitChars sep (p ++ sep :: q) = p :: splitChars sep q := by
  induction p with
  | nil => exact splitChars_cons_eq sep q
  | cons c p ih =>
    simp only [List.mem_cons, not_or] at h
    rw [List.cons_append, splitChars_cons_ne _ _ _ (fun e => h.1 e.symm), ih h.2]
    rfl

theorem splitOn_not_mem (s : String) (sep : Char) (h : sep ∉ s.toList) : s.splitOn sep.toString = [s] := by
  rw [splitOn_char, splitChars_not_mem _ _ h]
  simp

theorem splitOn_append_sep (p q : String) (sep : Char) (h : sep ∉ p.toList) :
    (p ++ sep.toString ++ q).splitOn sep.toString = p :: q.splitOn sep.toString := by
  rw [splitOn_char, splitOn_char, String.toList_append, String.toList_append, toString_ofList, String.toList_ofList,
    List.append_assoc, List.singleton_append, splitChars_append_sep _ _ _ h]
  simp

theorem intercalate_splitChars (sep : Char) (cs : List Char) :
    sep.toString.intercalate ((splitChars sep cs).map String.ofList) = String.ofList cs := by
  induction cs with
  | nil => simp [splitChars]
  | cons c cs ih =>
    by_cases hc : c = sep
    · subst hc
      rw [splitChars_cons_eq, List.map_cons, String.intercalate_cons_of_ne_nil (by simpa using splitChars_ne_nil c cs), ih,
        toString_ofList]
      simp
    · rw [splitChars_cons_ne _ _ _ hc]
      cases hs : splitChars sep cs with
      | nil => exact absurd hs (splitChars_ne_nil _ _)
      | cons p ps =>
        rw [hs] at ih
        simp only [prependFirst, List.map_cons, List.singleton_append]
        rw [show String.ofList (c :: p) = String.ofList [c] ++ String.ofList p by simp,
          String.intercalate_cons_append]
        rw [List.map_cons] at ih
        rw [ih]
        simp

theorem intercalate_splitOn (s : String) (sep : Char) : sep.toString.intercalate (s.splitOn sep.toString) = s := by
  rw [splitOn_char, intercalate_splitChars, String.ofList_toList]

theorem splitOpt_typeOnly : splitOpt "typeOnly" = ("typeOnly", "") := by
  rw [splitOpt_eq_C]; decide +kernel

theorem splitOpt_subtype (sub : String) : splitOpt ("subtype=" ++ sub) = ("subtype", sub) := by
  unfold splitOpt
  have h : "subtype=" ++ sub = "subtype" ++ '='.toString ++ sub := by
    rw [show "subtype=" = "subtype" ++ '='.toString by decide +kernel]
  rw [eq_eq, h, splitOn_append_sep _ _ _ (by decide +kernel)]
  cases hs : sub.splitOn '='.toString with
  | nil =>
    rw [splitOn_char] at hs
    simp only [List.map_eq_nil_iff] at hs
    exact absurd hs (splitChars_ne_nil _ _)
  | cons a as =>
    simp only
    rw [← hs, intercalate_splitOn]

theorem splitOn_intercalate (sep : Char) : ∀ (p : String) (ps : List String),
    (∀ q ∈ p :: ps, sep ∉ q.toList) →
    (sep.toString.intercalate (p :: ps)).splitOn sep.toString = p :: ps
  | p, [], h => by
    rw [String.intercalate_singleton]; exact splitOn_not_mem p sep (h p List.mem_cons_self)
  | p, q :: ps, h => by
    rw [String.intercalate_cons_cons, splitOn_append_sep p _ sep (h p List.mem_cons_self),
      splitOn_intercalate sep q ps fun r hr => h r (List.mem_cons_of_mem _ hr)]

theorem parseTag_opts (o : String) (os : List String) (h : ∀ q ∈ o :: os, ',' ∉ q.toList) :
    parseTag (",".intercalate ("" :: o :: os)) =
      { nameOverride := "",
        typeOnly := ((o :: os).map splitOpt).any (fun x => x.1 == "typeOnly"),
        subtype := ((((o :: os).map splitOpt).reverse.find? (fun x => x.1 == "subtype")).map (·.2)).getD "" } := by
  have hne : ",".intercalate ("" :: o :: os) ≠ "" := by
    rw [String.intercalate_cons_cons]
    intro e
    have := congrArg String.toList e
    simp at this
  have hs := splitOn_intercalate ',' "" (o :: os) fun q hq => by
    rcases List.mem_cons.1 hq with rfl | hq
    · exact List.not_mem_nil
    · exact h q hq
  rw [← comma_eq] at hs
  rw [parseTag, if_neg hne, hs]; rfl

theorem not_comma_subtype (sub : String) (h : ',' ∉ sub.toList) : ',' ∉ ("subtype=" ++ sub).toList := by
  rw [String.toList_append, List.mem_append, not_or]; exact ⟨by decide +kernel, h⟩

theorem parseTag_empty : parseTag "" = ⟨"", false, ""⟩ := by
  unfold parseTag; rw [if_pos rfl]

theorem parseTag_valueField (i : Nat) (l : Label) (h : ',' ∉ l.sub.toList) :
    parseTag (valueField i l).tag = ⟨"", decide (l.name = ""), l.sub⟩ := by
  show parseTag (",".intercalate ([""] ++ (if l.name = "" then ["typeOnly"] else []) ++
    (if l.sub ≠ "" then ["subtype=" ++ l.sub] else []))) = _
  have hsub : ∀ q ∈ ["subtype=" ++ l.sub], ',' ∉ q.toList :=
    fun q hq => List.mem_singleton.1 hq ▸ not_comma_subtype l.sub h
  by_cases hn : l.name = "" <;> by_cases hs : l.sub = ""
  · rw [if_pos hn, if_neg (not_not_intro hs), hs, decide_eq_true hn]
    exact (parseTag_opts "typeOnly" [] fun q hq => List.mem_singleton.1 hq ▸ by decide +kernel).trans
      (by simp [splitOpt_typeOnly])
  · rw [if_pos hn, if_pos hs, decide_eq_true hn]
    exact (parseTag_opts "typeOnly" _ fun q hq => by
      rcases List.mem_cons.1 hq with rfl | hq
      · decide +kernel
      · exact hsub q hq).trans (by simp [splitOpt_subtype, splitOpt_typeOnly])
  · rw [if_neg hn, if_neg (not_not_intro hs), hs, decide_eq_false hn]
    exact (congrArg parseTag (String.intercalate_singleton ..)).trans parseTag_empty
  · rw [if_neg hn, if_pos hs, decide_eq_false hn]
    exact (parseTag_opts _ [] hsub).trans (by simp [splitOpt_subtype])

theorem lower_upper (s : String) : lower (upper s) = lower s := by
  unfold lower upper
  rw [String.map_map]
  congr 1
  funext c
  exact Char.toLower_toUpper_eq_toLower c

theorem upper_eq_empty {s : String} : upper s = "" ↔ s = "" := String.map_eq_empty

theorem lower_empty : lower "" = "" := String.map_eq_empty.2 rfl

theorem tag_roundtrip (i : Nat) (l : Label) (h : ',' ∉ l.sub.toList) :
    fieldLabel (valueField i l) = { l with name := lower l.name } := by
  unfold fieldLabel
  rw [parseTag_valueField i l h]
  obtain ⟨name, ty, sub⟩ := l
  show Label.mk _ ty sub = ⟨lower name, ty, sub⟩
  by_cases hn : name = ""
  · rw [decide_eq_true hn, if_pos rfl, hn, lower_empty]
  · rw [decide_eq_false hn, if_neg Bool.false_ne_true, if_neg (fun e => e rfl)]
    show Label.mk (lower (if name ≠ "" then upper name else _)) ty sub = _
    rw [if_pos hn, lower_upper]

theorem subtypeOK_no_comma (s : String) (h : subtypeOK s = true) : ',' ∉ s.toList := by
  unfold subtypeOK String.any at h
  rw [String.contains_bool_eq] at h
  intro hm
  simp only [Bool.not_eq_true', List.any_eq_false] at h
  have := h ',' hm
  simp at this

end ArgMapper.TagStrings
