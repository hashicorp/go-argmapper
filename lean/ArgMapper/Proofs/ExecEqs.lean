import ArgMapper.Proofs.WalkEqs
import ArgMapper.Proofs.Args
import ArgMapper.Proofs.Lists
/-!
# `callDirect` and `outputValues`, by cases

`gatherArgs` and `outputValues` are folds: `gatherArgs_eq` over `gStep`, `outputValues_eq` over `oStep`.
`callDirect` replays a memo cell, fails while gathering its arguments, or executes the body;
`callDirect_cases` says which, with the state each leaves behind.  `outputValues` fails at one site only;
otherwise it writes to the store and may mark the function's memo cell as unwrapped (`outputValues_ok`).
With `walkStep_data` (a step at any other vertex touches the store and `last` only) these are all the ways
a walk changes the state.
-/
namespace ArgMapper.ExecEqs
open ArgMapper WalkEqs

/-! ### `callDirect` -/

theorem _root_.ArgMapper.TypeEnv.assignable_refl (e : TypeEnv) (t : Nat) : e.assignable t t = true := by
  simp [TypeEnv.assignable]

def gStep (e : TypeEnv) (am : ArgMap) (acc : Except RErr (List PVal)) (v : SVal) : Except RErr (List PVal) :=
  match acc with
  | .error x => .error x
  | .ok l =>
    match mapGet am v.lab.vertex with
    | none => .error .missingArg
    | some a =>
      if e.assignable a.ty v.lab.ty then .ok (l ++ [{ ty := v.lab.ty, id := a.id, org := a.org }])
      else .error (.panic .setNotAssignable)

theorem gatherArgs_eq (e : TypeEnv) (f : FuncDesc) (am : ArgMap) :
    gatherArgs e f am = f.input.values.foldl (gStep e am) (.ok []) := rfl

def argOf (am : ArgMap) (v : SVal) : PVal :=
  match mapGet am v.lab.vertex with
  | some a => { ty := v.lab.ty, id := a.id, org := a.org }
  | none => default

theorem gStep_fold_err (e : TypeEnv) (am : ArgMap) (vals : List SVal) (x : RErr) :
    vals.foldl (gStep e am) (.error x) = .error x := by
  induction vals with
  | nil => rfl
  | cons v vs ih => exact ih

inductive GatherOut (e : TypeEnv) (am : ArgMap) (vals : List SVal) : Except RErr (List PVal) → Prop
  | ok (h : ∀ v ∈ vals, ∃ a, mapGet am v.lab.vertex = some a ∧ e.assignable a.ty v.lab.ty = true) :
      GatherOut e am vals (.ok (vals.map (argOf am)))
  /-- a requirement is absent from the argument map (the guard at the end of `callDirect`) -/
  | missing {v : SVal} (hv : v ∈ vals) (hm : mapGet am v.lab.vertex = none) :
      GatherOut e am vals (.error .missingArg)
  /-- `reflect.Value.Set` refuses the value -/
  | notAssignable {v : SVal} {a : PVal} (hv : v ∈ vals) (hm : mapGet am v.lab.vertex = some a)
      (ha : e.assignable a.ty v.lab.ty = false) : GatherOut e am vals (.error (.panic .setNotAssignable))

theorem gStep_fold_cases (e : TypeEnv) (am : ArgMap) (vals : List SVal) (l : List PVal) :
    ∃ r, GatherOut e am vals r ∧ vals.foldl (gStep e am) (.ok l) = r.map (l ++ ·) := by
  induction vals generalizing l with
  | nil => exact ⟨.ok [], .ok nofun, by rw [List.foldl_nil, Except.map, List.append_nil]⟩
  | cons v vs ih =>
    rw [List.foldl_cons]
    cases hm : mapGet am v.lab.vertex with
    | none =>
      refine ⟨_, .missing List.mem_cons_self hm, ?_⟩
      rw [show gStep e am (.ok l) v = .error .missingArg by simp [gStep, hm], gStep_fold_err]; rfl
    | some a =>
      cases ha : e.assignable a.ty v.lab.ty with
      | false =>
        refine ⟨_, .notAssignable List.mem_cons_self hm ha, ?_⟩
        rw [show gStep e am (.ok l) v = .error (.panic .setNotAssignable) by simp [gStep, hm, ha], gStep_fold_err]
        rfl
      | true =>
        rw [show gStep e am (.ok l) v = .ok (l ++ [argOf am v]) by simp [gStep, argOf, hm, ha]]
        obtain ⟨r, hr, heq⟩ := ih (l ++ [argOf am v])
        rw [heq]
        cases hr with
        | ok h =>
          refine ⟨_, .ok fun v' hv' => ?_, by simp [Except.map]⟩
          rcases List.mem_cons.1 hv' with rfl | hv'
          · exact ⟨a, hm, ha⟩
          · exact h v' hv'
        | missing hv hm' => exact ⟨_, .missing (List.mem_cons_of_mem _ hv) hm', rfl⟩
        | notAssignable hv hm' ha' => exact ⟨_, .notAssignable (List.mem_cons_of_mem _ hv) hm' ha', rfl⟩

theorem gatherArgs_cases (e : TypeEnv) (f : FuncDesc) (am : ArgMap) :
    GatherOut e am f.input.values (gatherArgs e f am) := by
  obtain ⟨r, hr, heq⟩ := gStep_fold_cases e am f.input.values []
  rw [gatherArgs_eq, heq]
  cases r <;> exact hr

theorem argOf_of_get {am : ArgMap} {v : SVal} {a : PVal} (h : mapGet am v.lab.vertex = some a) :
    argOf am v = { ty := v.lab.ty, id := a.id, org := a.org } := by
  simp only [argOf, h]

theorem gatherArgs_eq_ok {e : TypeEnv} {f : FuncDesc} {am : ArgMap} {args : List PVal}
    (h : gatherArgs e f am = .ok args) :
    args = f.input.values.map (argOf am) ∧
    ∀ v ∈ f.input.values, ∃ a, mapGet am v.lab.vertex = some a ∧ e.assignable a.ty v.lab.ty = true := by
  have hc := gatherArgs_cases e f am
  rw [h] at hc
  cases hc with
  | ok hall => exact ⟨rfl, hall⟩

theorem gatherArgs_err {e : TypeEnv} {f : FuncDesc} {am : ArgMap} {x : RErr}
    (h : gatherArgs e f am = .error x) : x = .missingArg ∨ x = .panic .setNotAssignable := by
  have hc := gatherArgs_cases e f am
  rw [h] at hc
  cases hc with
  | missing => exact .inl rfl
  | notAssignable => exact .inr rfl

def execEv (c : Ctx) (f : FuncDesc) (s : CallSt) (args : List PVal) : ExecEv :=
  { fid := f.id, nth := countOf s f.id, args := args, params := f.input.labels,
    res := c.beh f.id (countOf s f.id) args }

inductive DirectStep (c : Ctx) (f : FuncDesc) (am : ArgMap) (s : CallSt) :
    Except RErr (BehOut × Bool) × CallSt → Prop
  /-- a run-once function whose cell is filled is not executed again -/
  | hit {m : Memo} (hm : (if f.once then mapGet s.memo f.id else none) = some m) :
      DirectStep c f am s (.ok (m.res, m.unwrapped), s)
  | argErr (hm : (if f.once then mapGet s.memo f.id else none) = none) {x : RErr}
      (hg : gatherArgs c.env f am = .error x) : DirectStep c f am s (.error x, s)
  | exec (hm : (if f.once then mapGet s.memo f.id else none) = none) {args : List PVal}
      (hg : gatherArgs c.env f am = .ok args) :
      DirectStep c f am s (.ok ((execEv c f s args).res, false),
        { s with log := s.log ++ [execEv c f s args],
                 count := mapSet s.count f.id (countOf s f.id + 1),
                 memo := if f.once then mapSet s.memo f.id { res := (execEv c f s args).res, unwrapped := false }
                         else s.memo })

theorem callDirect_cases (c : Ctx) (f : FuncDesc) (am : ArgMap) (s : CallSt) :
    DirectStep c f am s (callDirect c f am s) := by
  unfold callDirect
  split
  · rename_i m hm; exact .hit hm
  · rename_i hm
    split
    · rename_i x hg; exact .argErr hm hg
    · rename_i args hg
      have := DirectStep.exec (c := c) hm hg
      cases ho : f.once <;> simp only [ho] at this ⊢ <;> exact this

theorem mem_execMemo {f : FuncDesc} {memo : List (Nat × Memo)} {cell : Memo} {p : Nat × Memo}
    (hp : p ∈ (if f.once then mapSet memo f.id cell else memo)) :
    p ∈ memo ∨ (f.once = true ∧ p = (f.id, cell)) := by
  split at hp
  · rename_i ho
    exact (mem_mapSet hp).imp id fun h => ⟨ho, h⟩
  · exact .inl hp

theorem mapGet_execMemo {f : FuncDesc} {memo : List (Nat × Memo)} {cell m : Memo} {k : Nat}
    (hm : mapGet (if f.once then mapSet memo f.id cell else memo) k = some m) :
    mapGet memo k = some m ∨ (f.once = true ∧ k = f.id ∧ m = cell) := by
  split at hm
  · rename_i ho
    rw [mapGet_mapSet] at hm
    split at hm
    · rename_i hk
      cases hm
      exact .inr ⟨ho, hk, rfl⟩
    · exact .inl hm
  · exact .inl hm

theorem of_hit {f : FuncDesc} {s : CallSt} {m : Memo}
    (hm : (if f.once then mapGet s.memo f.id else none) = some m) :
    f.once = true ∧ mapGet s.memo f.id = some m := by
  split at hm
  · exact ⟨‹_›, hm⟩
  · cases hm

theorem mem_of_hit {f : FuncDesc} {s : CallSt} {m : Memo}
    (hm : (if f.once then mapGet s.memo f.id else none) = some m) : (f.id, m) ∈ s.memo :=
  mem_of_mapGet (of_hit hm).2

theorem callDirect_err {c : Ctx} {f : FuncDesc} {am : ArgMap} {s s' : CallSt} {e : RErr}
    (h : callDirect c f am s = (.error e, s')) : e = .missingArg ∨ e = .panic .setNotAssignable := by
  have hstep := callDirect_cases c f am s
  rw [h] at hstep
  cases hstep with
  | argErr _ hg => exact gatherArgs_err hg

/-! ### `outputValues` -/

/-- the one failure of `outputValues`: `Elem()` on a memoised result that was unwrapped in place (finding F15) -/
theorem outputValues_err {c : Ctx} {f : FuncDesc} {r : BehOut} {u : Bool} {s : CallSt} {e : RErr}
    (h : outputValues c f r u s = .error e) : e = .panic .elemOnStruct ∧ c.memoCopy = false := by
  unfold outputValues at h
  split at h
  · rename_i hc
    cases h
    exact ⟨rfl, by simpa using hc.2.2.2⟩
  · cases h

def oStep (f : FuncDesc) (r : BehOut) (s : CallSt) (v : Vtx) : CallSt :=
  match v with
  | .value n _ _ =>
    match mapGet f.output.named n with
    | some sv => s.set v (some (resultField f r sv.index sv.lab.ty v))
    | none => s
  | .out t _ =>
    match mapGet f.output.typed t with
    | some sv => s.set v (some (resultField f r sv.index sv.lab.ty v))
    | none => s
  | _ => s

theorem outputValues_eq (c : Ctx) (f : FuncDesc) (r : BehOut) (u : Bool) (s : CallSt) :
    outputValues c f r u s =
      if f.output.ptrs > 0 ∧ !f.output.lifted ∧ u ∧ !c.memoCopy then .error (.panic .elemOnStruct)
      else .ok ((c.g.ins (.func f.key)).foldl (oStep f r)
        (if f.once ∧ f.output.ptrs > 0 ∧ !f.output.lifted ∧ !c.memoCopy
          then { s with memo := s.memo.map (fun p => if p.1 = f.id then (p.1, { p.2 with unwrapped := true }) else p) }
          else s)) := rfl

/-- the state `outputValues` writes into: the cell of a run-once function whose pointer result is unwrapped in
place is marked (finding F15) -/
def unwrapSt (c : Ctx) (f : FuncDesc) (s : CallSt) : CallSt :=
  if f.once ∧ f.output.ptrs > 0 ∧ !f.output.lifted ∧ !c.memoCopy
  then { s with memo := s.memo.map (fun p => if p.1 = f.id then (p.1, { p.2 with unwrapped := true }) else p) }
  else s

theorem unwrapSt_cases (c : Ctx) (f : FuncDesc) (s : CallSt) :
    unwrapSt c f s = s ∨ unwrapSt c f s =
      { s with memo := s.memo.map (fun p => if p.1 = f.id then (p.1, { p.2 with unwrapped := true }) else p) } := by
  unfold unwrapSt
  split
  · exact .inr rfl
  · exact .inl rfl

theorem outputValues_fold {c : Ctx} {f : FuncDesc} {r : BehOut} {u : Bool} {s s' : CallSt}
    (h : outputValues c f r u s = .ok s') :
    s' = (c.g.ins (.func f.key)).foldl (oStep f r) (unwrapSt c f s) := by
  rw [outputValues_eq] at h
  split at h
  · cases h
  · exact (Except.ok.inj h).symm

theorem oStep_cases (f : FuncDesc) (r : BehOut) (s : CallSt) (v : Vtx) :
    oStep f r s v = s ∨
    ∃ sv, ((∃ n, mapGet f.output.named n = some sv) ∨ ∃ t, mapGet f.output.typed t = some sv) ∧
      oStep f r s v = s.set v (some (resultField f r sv.index sv.lab.ty v)) := by
  unfold oStep
  split
  · split
    · rename_i sv hsv; exact .inr ⟨sv, .inl ⟨_, hsv⟩, rfl⟩
    · exact .inl rfl
  · split
    · rename_i sv hsv; exact .inr ⟨sv, .inr ⟨_, hsv⟩, rfl⟩
    · exact .inl rfl
  · exact .inl rfl

theorem oStep_frame (f : FuncDesc) (r : BehOut) (s : CallSt) (v : Vtx) :
    ∃ st, oStep f r s v = { s with store := st } := by
  rcases oStep_cases f r s v with h | ⟨sv, _, h⟩ <;> rw [h]
  · exact ⟨_, rfl⟩
  · exact set_frame ..

theorem oFold_frame (f : FuncDesc) (r : BehOut) (l : List Vtx) (s : CallSt) :
    ∃ st, l.foldl (oStep f r) s = { s with store := st } :=
  foldl_inv (fun t => ∃ st, t = { s with store := st }) _
    (fun t v ⟨st, ht⟩ => by obtain ⟨st', h⟩ := oStep_frame f r t v; exact ⟨st', by rw [h, ht]⟩) l s ⟨_, rfl⟩

theorem oStep_mono (f : FuncDesc) (r : BehOut) (s : CallSt) (v u : Vtx) (h : (s.get u).isSome = true) :
    ((oStep f r s v).get u).isSome = true := by
  rcases oStep_cases f r s v with h1 | ⟨sv, _, h1⟩ <;> rw [h1]
  · exact h
  · rw [get_set]; split
    · rfl
    · exact h


def OutKnown (f : FuncDesc) (v : Vtx) : Prop :=
  (∀ n t s, v = .value n t s → (mapGet f.output.named n).isSome = true) ∧
  (∀ t s, v = .out t s → (mapGet f.output.typed t).isSome = true) ∧
  (v.isValue = true ∨ v.isOut = true)

theorem oStep_self (f : FuncDesc) (r : BehOut) (s : CallSt) (v : Vtx) (h : OutKnown f v) :
    ((oStep f r s v).get v).isSome = true := by
  obtain ⟨h1, h2, h3⟩ := h
  unfold oStep
  cases v with
  | value n t u =>
    obtain ⟨sv, hm⟩ := Option.isSome_iff_exists.1 (h1 n t u rfl)
    dsimp only; rw [hm]; dsimp only; rw [get_set, if_pos rfl]; rfl
  | out t u =>
    obtain ⟨sv, hm⟩ := Option.isSome_iff_exists.1 (h2 t u rfl)
    dsimp only; rw [hm]; dsimp only; rw [get_set, if_pos rfl]; rfl
  | _ => rcases h3 with h | h <;> cases h

theorem oFold_filled (f : FuncDesc) (r : BehOut) (l : List Vtx) (hl : ∀ v ∈ l, OutKnown f v) (s : CallSt) :
    ∀ v ∈ l, ((l.foldl (oStep f r) s).get v).isSome = true := by
  induction l generalizing s with
  | nil => nofun
  | cons a l ih =>
    intro v hv
    rcases List.mem_cons.1 hv with rfl | hv
    · exact foldl_inv (fun t => (t.get v).isSome = true) _ (fun t b ht => oStep_mono f r t b v ht) l _
        (oStep_self f r s v (hl v List.mem_cons_self))
    · exact ih (fun v hv => hl v (List.mem_cons_of_mem _ hv)) _ v hv

theorem outputValues_ok {c : Ctx} {f : FuncDesc} {r : BehOut} {u : Bool} {s s' : CallSt}
    (h : outputValues c f r u s = .ok s') :
    ∃ st memo, s' = { s with store := st, memo := memo } ∧ (memo = s.memo ∨
      memo = s.memo.map (fun p => if p.1 = f.id then (p.1, { p.2 with unwrapped := true }) else p)) := by
  obtain ⟨st, hst⟩ := oFold_frame f r (c.g.ins (.func f.key)) (unwrapSt c f s)
  rw [outputValues_fold h, hst]
  rcases unwrapSt_cases c f s with h1 | h1 <;> rw [h1]
  · exact ⟨st, _, rfl, .inl rfl⟩
  · exact ⟨st, _, rfl, .inr rfl⟩

/-! ### the walk at a data vertex -/

theorem walkStep_data (c : Ctx) (rec : Vtx → CallSt → Except RErr ArgMap × CallSt) {w : WalkSt} (h : w.err = none)
    (v : Vtx) :
    (∃ st l fin, walkStep c rec w v =
      { w with s := { w.s with store := st, last := l }, final := fin, prev := some v }) ∨ ∃ k, v = .func k := by
  cases v with
  | root => exact .inl ⟨w.s.store, w.s.last, w.final, walkStep_root c rec h⟩
  | value n t u =>
    obtain ⟨st, hs⟩ := valCopy_frame c w.s w.prev (.value n t u)
    rw [walkStep_value c rec h, hs]; exact .inl ⟨_, _, _, rfl⟩
  | arg t u =>
    obtain ⟨st, hs⟩ := argStore_frame c w.s t (.arg t u)
    rw [walkStep_arg c rec h, hs]; exact .inl ⟨_, _, _, rfl⟩
  | out t u =>
    obtain ⟨st, hs⟩ := copyFrom_frame w.s w.prev (.out t u)
    rw [walkStep_out c rec h, hs]; exact .inl ⟨_, _, _, rfl⟩
  | func k => exact .inr ⟨k, rfl⟩

theorem walkPaths_inv {c : Ctx} {rec : Vtx → CallSt → Except RErr ArgMap × CallSt} (Q : CallSt → Prop)
    (hstep : ∀ w v, Q w.s → Q (walkStep c rec w v).s) (ps : List (List Vtx)) (am : ArgMap) (s : CallSt)
    (h : Q s) : Q (walkPaths c rec ps am s).2 := by
  induction ps generalizing am s with
  | nil => exact h
  | cons p rest ih =>
    have hw : Q (walkPath c rec s p).s := foldl_inv (fun (w : WalkSt) => Q w.s) _ hstep p _ h
    have hcons := walkPaths_cons c rec p rest am s
    generalize walkPaths c rec (p :: rest) am s = r at hcons ⊢
    cases hcons with
    | err _ => exact hw
    | noFinal _ _ => exact hw
    | next _ _ _ => exact ih _ _ hw

end ArgMapper.ExecEqs
